import SplVerif.Driver.Dump
import SplVerif.Driver.OpsCodec
import SplVerif.Driver.OpsDoc
import SplVerif.Driver.OpsFeat
import SplVerif.Driver.OpsFmtSpec
import SplVerif.Driver.OpsLex
import SplVerif.Driver.OpsNet
import SplVerif.Driver.OpsParse
import SplVerif.Driver.OpsRpc
import SplVerif.Driver.OpsSpec
import SplVerif.Driver.Wire
import SplVerif.Gen.Builtins
import SplVerif.Gen.LexTables
import SplVerif.Gen.ParserTables
import SplVerif.Gen.RpcTables
import SplVerif.Lemmas.Codec
import SplVerif.Lemmas.CodecEnv
import SplVerif.Lemmas.NetRefine
import SplVerif.Lemmas.IncLex
import SplVerif.Lemmas.LexLocal
import SplVerif.Lemmas.LexConform
import SplVerif.Lemmas.TypingSound
import SplVerif.Lemmas.ParseConform
import SplVerif.Lemmas.ParseConformStmt
import SplVerif.Lemmas.ParseConformDecl
import SplVerif.Lemmas.ParseClean
import SplVerif.Lemmas.Resync
import SplVerif.Lemmas.FoldPos
import SplVerif.Lemmas.Cursor
import SplVerif.Lemmas.Extents
import SplVerif.Lemmas.SemOrder
import SplVerif.Lemmas.Prefix
import SplVerif.Lemmas.Shift
import SplVerif.Lemmas.ScopeExact
import SplVerif.Lemmas.FreshEnd
import SplVerif.Lemmas.Contain
import SplVerif.Lemmas.ParserLogic
import SplVerif.Lemmas.Total
import SplVerif.Lemmas.Analyze
import SplVerif.Lemmas.ParserInv
import SplVerif.Lemmas.IdOK
import SplVerif.Lemmas.FmtLex
import SplVerif.Lemmas.FmtExpr
import SplVerif.Lemmas.FmtStmt
import SplVerif.Lemmas.FmtDecl
import SplVerif.Lemmas.FmtProgram
import SplVerif.Lemmas.FmtCanon
import SplVerif.Lemmas.Doc
import SplVerif.Lemmas.Lex
import SplVerif.Lemmas.ParserTables
import SplVerif.Lemmas.Rpc
import SplVerif.Model.Ast
import SplVerif.Model.Basic
import SplVerif.Model.Codec
import SplVerif.Model.Doc
import SplVerif.Model.Features
import SplVerif.Model.Format
import SplVerif.Model.Lexer
import SplVerif.Model.Net
import SplVerif.Model.Parser
import SplVerif.Model.ParserCore
import SplVerif.Model.ParserTypes
import SplVerif.Model.Rpc
import SplVerif.Model.RpcTypes
import SplVerif.Model.Table
import SplVerif.Props.C01
import SplVerif.Props.C02
import SplVerif.Props.C03
import SplVerif.Props.C04
import SplVerif.Props.C05
import SplVerif.Props.C06
import SplVerif.Props.C07
import SplVerif.Props.C08
import SplVerif.Props.C09
import SplVerif.Props.C10
import SplVerif.Props.C11
import SplVerif.Props.C12
import SplVerif.Props.C13
import SplVerif.Props.C14
import SplVerif.Props.C15
import SplVerif.Props.C16
import SplVerif.Props.C17
import SplVerif.Props.C18
import SplVerif.Props.C19
import SplVerif.Props.C20
import SplVerif.Spec.Grammar
import SplVerif.Spec.LexSpec
import SplVerif.Spec.LspPos
import SplVerif.Spec.RpcSpec
import SplVerif.Spec.Scope
import SplVerif.Spec.Tiling
import SplVerif.Spec.Typing
