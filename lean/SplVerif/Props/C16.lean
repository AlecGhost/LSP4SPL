/-
  C16 — Completion proposals respect scope and syntactic position.  Property theorems only.
-/
import SplVerif.Model.Features
import SplVerif.Lemmas.ScopeExact

namespace Spl.C16
open Spl.Feat

/-- **Statement positions.**  The proposals for a new statement are the four statement starters,
    exactly the entries of the given local table as variables, and exactly the procedures of the
    global table as functions. -/
theorem new_stmt_shape (lt : Option LocalTable) (g : GlobalTable) :
    newStmt lt g = [snIf, snWhile, kwItem "if", kwItem "while"] ++
      (match lt with | some l => searchVariables l | none => []) ++ searchProcedures g := rfl

/-- One variable proposal per entry of the local table, labelled with its name. -/
theorem search_variables_labels (l : LocalTable) : (searchVariables l).map (·.label) = l.map (·.1) := by
  rw [searchVariables, List.map_map]
  exact List.map_congr_left fun ⟨k, v⟩ _ => by cases v <;> rfl

theorem search_variables_kind (l : LocalTable) : ∀ i ∈ searchVariables l, i.kind = "Variable" := by
  intro i hi
  obtain ⟨⟨k, e⟩, _, rfl⟩ := List.mem_map.mp hi
  cases e <;> rfl

/-- Type positions: exactly the type entries of the global table (declared types and `int`). -/
theorem search_types_only_types (g : GlobalTable) : ∀ i ∈ searchTypes g, i.kind = "Struct" := by
  intro i hi
  obtain ⟨⟨k, e⟩, _, h⟩ := List.mem_filterMap.mp hi
  match e, h with
  | .type t, rfl => rfl

/-- Outside any declaration only declaration starters are offered (plus the `main` snippet while
    no procedure `main` exists). -/
theorem top_level_only_starters (g : GlobalTable) :
    ∀ i ∈ newGlobalDeclaration g, i.label ∈ ["proc".toList, "type".toList, "main".toList] := by
  have hall : ∀ j ∈ [snProc, snType, kwItem "proc", kwItem "type"] ++ [snMain],
      j.label ∈ ["proc".toList, "type".toList, "main".toList] := by decide
  intro i hi
  rcases List.mem_append.mp hi with h | h
  · exact hall i (List.mem_append_left _ h)
  · split at h
    · cases h
    · exact hall i (List.mem_append_right _ h)

open Spl.ScopeExact in
/- non-vacuity of the hypothesis `wellTyped p = true`: the kernel-evaluated examples of Props/C03.lean (`specVerdict … = some true`
   for a program with a type declaration, a procedure with reference and value parameters and `main`). -/
/-- **Statement and type positions of a well-typed program are scope-exact.**  For every program the typing
    specification accepts, with the table `build` returns for it: at a statement position of procedure `pd` (the
    handler passes the local table of the entry found under the procedure's name) the proposals are the four
    statement starters, then exactly the parameters and the local variables `pd` declares, in order, then exactly
    the predefined and the declared procedures — no name that is local to another procedure, none missing; at a
    type position exactly `int` and the declared types. -/
theorem statement_scope_exact (p : Program) (h : Typing.wellTyped p = true) :
    ∃ table, build p = .ok (p, table) ∧
      (searchTypes table).map (·.label) = "int".toList :: p.decls.filterMap declTypeName ∧
      ∀ d ∈ p.decls, ∀ pd n, d.val = .proc pd → pd.name = some n →
        ∃ pe, tblLookup table n.value = some (.procedure pe) ∧
          (newStmt (some pe.localTable) table).map (·.label) =
            ["while".toList, "if".toList, "if".toList, "while".toList] ++
            (pd.params.filterMap paramName ++ pd.vars.filterMap varName) ++
            (["printi", "printc", "readi", "readc", "exit", "time", "clearAll", "setPixel", "drawLine",
              "drawCircle"].map String.toList ++ p.decls.filterMap declProcName) := by
  obtain ⟨table, hb, hp, ht, hl⟩ := tables_exact p h
  refine ⟨table, hb, ht, fun d hd pd n hv hn => ?_⟩
  obtain ⟨pe, hlk, hnames⟩ := hl d hd pd n hv hn
  refine ⟨pe, hlk, ?_⟩
  rw [new_stmt_shape, List.map_append, List.map_append, search_variables_labels, hnames, hp]
  -- unfolded by rewriting: evaluating `filterMap` over the predefined entities by `rfl` alone is slow to check
  simp only [Typing.predefined, List.filterMap_cons, List.filterMap_nil, procName, List.map_cons, List.map_nil]
  rfl

open Spl.ScopeExact in
/-- **Names local to another procedure are never proposed.**  In a well-typed program, whatever is proposed at a
    statement position of procedure `pd` is a statement starter, one of `pd`'s own parameters or local variables, or a
    (predefined or declared) procedure — a name that is only a parameter or variable of some other procedure is not
    in the list. -/
theorem only_own_locals_proposed (p : Program) (h : Typing.wellTyped p = true) :
    ∃ table, build p = .ok (p, table) ∧
      ∀ d ∈ p.decls, ∀ pd n, d.val = .proc pd → pd.name = some n →
        ∃ pe, tblLookup table n.value = some (.procedure pe) ∧
          ∀ x ∈ (newStmt (some pe.localTable) table).map (·.label),
            x ∈ ["while".toList, "if".toList] ∨
            x ∈ pd.params.filterMap paramName ++ pd.vars.filterMap varName ∨
            x ∈ (["printi", "printc", "readi", "readc", "exit", "time", "clearAll", "setPixel", "drawLine",
              "drawCircle"].map String.toList ++ p.decls.filterMap declProcName) := by
  obtain ⟨table, hb, _, hl⟩ := statement_scope_exact p h
  refine ⟨table, hb, fun d hd pd n hv hn => ?_⟩
  obtain ⟨pe, hlk, heq⟩ := hl d hd pd n hv hn
  refine ⟨pe, hlk, fun x hx => ?_⟩
  rw [heq, List.append_assoc, List.mem_append] at hx
  refine hx.imp (fun hx => ?_) List.mem_append.mp
  simp only [List.mem_cons, List.mem_nil_iff, or_false] at hx ⊢
  exact hx.elim .inl fun h => h.elim .inr fun h => h.elim .inr .inl

end Spl.C16
