/-
  C15 — Semantic tokens are well-formed and agree with lexical class and binding kind.
-/
import SplVerif.Model.Features
import SplVerif.Lemmas.Extents
import SplVerif.Lemmas.SemOrder

namespace Spl.C15
open Spl.Feat

/-- A produced semantic token is positioned by non-negative deltas from the previous one: the
    handler fails (instead of wrapping around) if a token would precede its predecessor. -/
theorem createSemTok_delta (t : Token) (prev : Pos) (text : List Char) (ty m : Nat) (st : SemTok)
    (h : createSemTok t prev text ty m = .ok st) :
    prev.line + st.deltaLine = (asPosition t.range.lo text).line ∧
    (st.deltaLine = 0 → prev.col + st.deltaStart = (asPosition t.range.lo text).col) ∧
    (st.deltaLine ≠ 0 → st.deltaStart = (asPosition t.range.lo text).col) ∧
    st.tokenType = ty ∧ st.modifiers = m := by
  unfold createSemTok at h
  split at h
  · cases h
  dsimp only at h
  split at h
  · cases h
  split at h
  · cases h
  cases h
  rename_i h1 h2
  simp only [Bool.and_eq_true, beq_iff_eq, decide_eq_true_eq] at h2
  refine ⟨?_, ?_, ?_, rfl, rfl⟩
  · dsimp only
    omega
  · simp only [beq_iff_eq]
    intro hz
    split <;> omega
  · simp only [beq_iff_eq]
    intro hz
    split <;> omega

/-- what an LSP client does with the relative encoding: absolute start positions, in order -/
def decode (prev : Pos) : List SemTok → List Pos
  | [] => []
  | st :: r =>
    let p : Pos := if st.deltaLine = 0 then ⟨prev.line, prev.col + st.deltaStart⟩
                   else ⟨prev.line + st.deltaLine, st.deltaStart⟩
    p :: decode p r

/-- the tokens a classifier selects (index-aware, as in `collectToks`) -/
def classified (classify : Nat → Token → Option (Nat × Nat)) : List Token → Nat → List Token
  | [], _ => []
  | t :: rest, i =>
    match classify i t with
    | none => classified classify rest (i + 1)
    | some _ => t :: classified classify rest (i + 1)

def advance (prev : Pos) (st : SemTok) : Pos :=
  if st.deltaLine = 0 then ⟨prev.line, prev.col + st.deltaStart⟩
  else ⟨prev.line + st.deltaLine, st.deltaStart⟩

theorem advance_createSemTok {t : Token} {prev : Pos} {text : List Char} {ty m : Nat} {st : SemTok}
    (h : createSemTok t prev text ty m = .ok st) : advance prev st = asPosition t.range.lo text := by
  obtain ⟨h1, h2, h3, _⟩ := createSemTok_delta t prev text ty m st h
  unfold advance
  split
  · next h0 =>
    rw [h0, Nat.add_zero] at h1
    rw [h1, h2 h0]
  · next h0 => rw [h1, h3 h0]

theorem decode_cons (prev : Pos) (st : SemTok) (r : List SemTok) :
    decode prev (st :: r) = advance prev st :: decode (advance prev st) r := rfl

theorem collectToks_decode (text : List Char) (classify : Nat → Token → Option (Nat × Nat)) :
    ∀ (toks : List Token) (i : Nat) (prev : Pos) (sts : List SemTok) (p : Pos),
      collectToks text classify toks i prev = .ok (sts, p) →
      decode prev sts = (classified classify toks i).map (fun t => asPosition t.range.lo text) ∧
      p = sts.foldl advance prev
  | [], i, prev, sts, p, h => by
    cases h
    exact ⟨rfl, rfl⟩
  | t :: rest, i, prev, sts, p, h => by
    simp only [collectToks] at h
    simp only [classified]
    split at h
    · rename_i hc
      rw [hc]
      exact collectToks_decode text classify rest (i + 1) prev sts p h
    rename_i ty m hc
    split at h
    · cases h
    rename_i st hs
    split at h
    · cases h
    rename_i sts' p' hr
    cases h
    obtain ⟨ih1, ih2⟩ := collectToks_decode text classify rest (i + 1) _ sts' p hr
    rw [hc, decode_cons, List.foldl_cons, advance_createSemTok hs]
    exact ⟨congrArg _ ih1, ih2⟩

theorem decode_append (prev : Pos) (a b : List SemTok) :
    decode prev (a ++ b) = decode prev a ++ decode (a.foldl advance prev) b := by
  induction a generalizing prev with
  | nil => rfl
  | cons st r ih => simp only [List.cons_append, decode_cons, List.foldl_cons, ih]

/-- the classified tokens of all declarations from `ds` on, in document order -/
def classifiedAll (d : AnalyzedSource) : List (Ref GlobalDecl) → List Token
  | [] => []
  | gd :: rest =>
    match declTokens d gd with
    | none => []
    | some sl => classified (semClassify d gd.val sl) sl 0 ++ classifiedAll d rest

theorem from_decode (d : AnalyzedSource) : ∀ (ds : List (Ref GlobalDecl)) (prev : Pos) (sts : List SemTok) (p : Pos),
    semanticTokensFrom d ds prev = .ok (sts, p) →
    decode prev sts = (classifiedAll d ds).map (fun t => asPosition t.range.lo d.text) ∧
    p = sts.foldl advance prev
  | [], prev, sts, p, h => by
    cases h
    exact ⟨rfl, rfl⟩
  | gd :: rest, prev, sts, p, h => by
    simp only [semanticTokensFrom] at h
    simp only [classifiedAll]
    split at h
    · cases h
    rename_i sl hd
    split at h
    · cases h
    rename_i s1 p1 hc
    split at h
    · cases h
    rename_i more p2 hr
    cases h
    obtain ⟨e1, e2⟩ := collectToks_decode d.text _ sl 0 prev s1 p1 hc
    obtain ⟨ih1, ih2⟩ := from_decode d rest p1 more p hr
    rw [hd, decode_append, List.foldl_append, ← e2, ih1, e1, List.map_append]
    exact ⟨rfl, ih2⟩

/-- the classifier of the tokens behind the last declaration: lexical classes only -/
def restClassify : Nat → Token → Option (Nat × Nat) := fun _ t => (mapTokenClass t).map (fun c => (c, 0))

/-- all classified tokens of a document: those of its declarations, then those behind the last one -/
def classifiedDoc (d : AnalyzedSource) : List Token :=
  classifiedAll d d.ast.decls ++ classified restClassify (d.tokens.drop (restStart d)) 0

/-- **Decoding the relative encoding gives back the tokens' positions.**  Whenever the handler
    answers, a client that decodes the `(deltaLine, deltaStart)` stream from `(0, 0)` — the LSP
    rule — obtains exactly the start positions (`as_position` of the token start) of the
    classified tokens, declaration by declaration in document order and then the comments behind
    the last declaration: nothing is shifted, dropped or duplicated, for every document. -/
theorem semantic_tokens_decode (d : AnalyzedSource) (sts : List SemTok) (h : semanticTokens d = .ok sts) :
    decode ⟨0, 0⟩ sts = (classifiedDoc d).map (fun t => asPosition t.range.lo d.text) := by
  simp only [semanticTokens] at h
  split at h
  · cases h
  rename_i s1 p1 hf
  split at h
  · cases h
  rename_i s2 p2 hc
  cases h
  obtain ⟨e1, e2⟩ := from_decode d d.ast.decls ⟨0, 0⟩ s1 p1 hf
  obtain ⟨e3, _⟩ := collectToks_decode d.text restClassify _ 0 p1 s2 p2 hc
  rw [decode_append, ← e2, e1, e3, classifiedDoc, List.map_append]

theorem decode_length : ∀ (l : List SemTok) (p : Pos), (decode p l).length = l.length
  | [], _ => rfl
  | _ :: l, _ => congrArg (· + 1) (decode_length l _)

/-- one produced semantic token per classified token -/
theorem semantic_tokens_count (d : AnalyzedSource) (sts : List SemTok) (h : semanticTokens d = .ok sts) :
    sts.length = (classifiedDoc d).length := by
  rw [← decode_length sts ⟨0, 0⟩, semantic_tokens_decode d sts h, List.length_map]

theorem classified_sublist (cl : Nat → Token → Option (Nat × Nat)) : ∀ (toks : List Token) (i : Nat),
    (classified cl toks i).Sublist toks
  | [], _ => List.Sublist.slnil
  | t :: rest, i => by
    simp only [classified]
    split
    · exact (classified_sublist cl rest (i + 1)).cons t
    · exact (classified_sublist cl rest (i + 1)).cons_cons t

/-- where the declarations end (absolute token index); `p` without declarations -/
def endOf (p : Nat) (ds : List (Ref GlobalDecl)) : Nat :=
  match ds.getLast? with
  | some gd => gd.offset + gd.val.info.range.hi
  | none => p

theorem endOf_cons (p : Nat) (gd : Ref GlobalDecl) (rest : List (Ref GlobalDecl)) :
    endOf p (gd :: rest) = endOf (gd.offset + gd.val.info.range.hi) rest := by
  cases rest with
  | nil => rfl
  | cons r rs =>
    simp only [endOf, List.getLast?_cons_cons]
    rw [List.getLast?_eq_some_getLast (List.cons_ne_nil r rs)]

theorem restStart_eq (d : AnalyzedSource) : restStart d = endOf 0 d.ast.decls := by
  unfold restStart endOf
  cases d.ast.decls.getLast? <;> rfl

theorem drop_eq_slice_append {α} (l : List α) {p n : Nat} (hp : p ≤ n) (hn : n ≤ l.length) :
    l.drop p = (l.take n).drop p ++ l.drop n := by
  conv => lhs; rw [← List.take_append_drop n l]
  rw [List.drop_append_of_le_length (by rw [List.length_take]; omega)]

open Spl.ParseConform in
/-- the first declaration of a tiling from `p` is the token slice `p … k` for some `k`, and the
    other declarations tile the tokens from `k + 1` -/
theorem tiling_cons (d : AnalyzedSource) {p : Nat} {gd : Ref GlobalDecl} {rest : List (Ref GlobalDecl)}
    {es : List (Nat × Nat)} (h : Tiling d.tokens.toArray p (gd :: rest) es) :
    ∃ k es', Tiling d.tokens.toArray (k + 1) rest es' ∧
      declTokens d gd = some ((d.tokens.take (k + 1)).drop p) ∧
      d.tokens.drop p = (d.tokens.take (k + 1)).drop p ++ d.tokens.drop (k + 1) ∧
      endOf p (gd :: rest) = endOf (k + 1) rest := by
  obtain ⟨k, es', hpk, hk, hoff, hr, ht⟩ : ∃ k es', p ≤ k + 1 ∧ k < d.tokens.length ∧ gd.offset = p ∧
      gd.val.info.range = ⟨0, k + 1 - p⟩ ∧ Tiling d.tokens.toArray (k + 1) rest es' := by
    cases h with
    | type _ i k _ _ _ hN _ hik hk hr ht | proc _ i k _ _ _ hN _ hik hk hr ht =>
      obtain ⟨_, htk, _⟩ := hk
      exact ⟨k, _, by have := hN.le; omega, (Array.getElem?_eq_some_iff.mp htk).1, rfl, hr, ht⟩
  refine ⟨k, es', ht, ?_, drop_eq_slice_append _ hpk hk, ?_⟩
  · have h1 : 0 + p ≤ d.tokens.toArray.size := by simp; omega
    have h2 : (0 : Nat) ≤ k + 1 - p ∧ 0 + p + (k + 1 - p) ≤ d.tokens.toArray.size := by simp; omega
    simp only [declTokens, allTokens, Slice.full, Slice.from, hoff, h1, if_true, Slice.sub, hr, h2, and_self,
      Option.map_some, Slice.toList, Array.toList_extract, List.extract_eq_take_drop, Option.some.injEq]
    rw [List.drop_take]
    congr 2 <;> omega
  · rw [endOf_cons, hoff, hr]
    exact congrArg (endOf · rest) (Nat.add_sub_cancel' hpk)

open Spl.ParseConform in
/-- on declarations that tile the token sequence, the classified tokens of the declarations followed
    by any selection of the tokens behind the last declaration are a sub-sequence of the tokens -/
theorem tiling_sublist (d : AnalyzedSource) (X : List Token → List Token) (hX : ∀ l, (X l).Sublist l) :
    ∀ (p : Nat) (ds : List (Ref GlobalDecl)) (es : List (Nat × Nat)), Tiling d.tokens.toArray p ds es →
    (classifiedAll d ds ++ X (d.tokens.drop (endOf p ds))).Sublist (d.tokens.drop p) := by
  intro p ds
  induction ds generalizing p with
  | nil => intro _ _; exact hX _
  | cons gd rest ih =>
    intro es h
    obtain ⟨k, es', ht, hd, hsplit, hend⟩ := tiling_cons d h
    rw [hend, hsplit, classifiedAll, hd, List.append_assoc]
    exact (classified_sublist _ _ _).append (ih _ _ ht)

/-- **In a valid program every classified token is a lexical token of the text, and they come in
    document order**: the list the handler encodes is a sub-sequence of the document's tokens —
    nothing is visited twice or out of order, whatever the layout and wherever comments stand. -/
theorem classified_in_order (d : AnalyzedSource) (hp : Grammar.parse d.tokens = some d.ast) :
    (classifiedDoc d).Sublist d.tokens := by
  obtain ⟨es, ht⟩ := ParseConform.parse_tiling d.tokens d.ast hp
  rw [classifiedDoc, restStart_eq]
  exact tiling_sublist d (fun l => classified restClassify l 0) (fun l => classified_sublist _ l 0) 0 _ es ht

/-- **The decoded token stream of a valid program is strictly increasing in document order**
    (`SemOrder.lexLt`: an earlier line, or the same line and a smaller column): consecutive — and
    hence any two — decoded tokens start at different places, the later one behind the earlier
    one; by `classified_in_order` each of them is the start of a lexical token of its own. -/
theorem semantic_tokens_increasing (d : AnalyzedSource) (hinv : lex d.text = .ok d.tokens)
    (hp : Grammar.parse d.tokens = some d.ast) (sts : List SemTok) (h : semanticTokens d = .ok sts) :
    (decode ⟨0, 0⟩ sts).Pairwise SemOrder.lexLt := by
  rw [semantic_tokens_decode d sts h, List.pairwise_map]
  have hsub := classified_in_order d hp
  have hst := (SemOrder.tokens_strict d.text d.tokens hinv).sublist hsub
  refine List.Pairwise.imp_of_mem ?_ hst
  intro x y hx hy hlt
  exact SemOrder.starts_strict d.text d.tokens hinv x y (hsub.subset hx) (hsub.subset hy) hlt

open SemOrder in
/-- `prev` lies at or before the reported start of every token of `l` -/
def Before (text : List Char) (prev : Pos) (l : List Token) : Prop :=
  ∀ t ∈ l, lexLe prev (asPosition t.range.lo text)

open SemOrder in
theorem createSemTok_ok (t : Token) (prev : Pos) (text : List Char) (ty m : Nat)
    (hs : ∃ s, sliceText text t.range = some s) (hle : lexLe prev (asPosition t.range.lo text)) :
    ∃ st, createSemTok t prev text ty m = .ok st := by
  obtain ⟨s, hs⟩ := hs
  have h1 : ¬ (asPosition t.range.lo text).line < prev.line := by
    rcases hle with (h | h) | rfl <;> omega
  have h2 : ¬ ((asPosition t.range.lo text).line == prev.line &&
      decide ((asPosition t.range.lo text).col < prev.col)) = true := by
    simp only [Bool.and_eq_true, beq_iff_eq, decide_eq_true_eq]
    rcases hle with (h | h) | rfl <;> omega
  simp only [createSemTok, hs, h1, h2, if_false]
  exact ⟨_, rfl⟩

open SemOrder in
/-- the fold over one run of tokens answers when the previous position lies before all of them,
    and the position it hands on lies before whatever comes behind the run -/
theorem collectToks_total (text : List Char) (toks : List Token) (hinv : lex text = .ok toks)
    (cl : Nat → Token → Option (Nat × Nat)) :
    ∀ (l : List Token) (i : Nat) (prev : Pos), (∀ t ∈ l, t ∈ toks) →
      l.Pairwise (fun x y => x.range.lo < y.range.lo) → Before text prev l →
      ∃ sts p, collectToks text cl l i prev = .ok (sts, p) ∧
        ∀ L', (∀ t ∈ L', t ∈ toks) → (∀ x ∈ l, ∀ y ∈ L', x.range.lo < y.range.lo) → Before text prev L' →
          Before text p L'
  | [], i, prev, _, _, _ => ⟨[], prev, rfl, fun _ _ _ h => h⟩
  | t :: rest, i, prev, hmem, hpw, hbef => by
    rw [List.pairwise_cons] at hpw
    rw [List.forall_mem_cons] at hmem
    simp only [collectToks]
    -- behind `t`, whatever starts later in the text is reported later
    have hnext : ∀ L', (∀ y ∈ L', y ∈ toks) → (∀ y ∈ L', t.range.lo < y.range.lo) →
        Before text (asPosition t.range.lo text) L' :=
      fun L' hL hlt y hy => Or.inl (starts_strict text toks hinv t y hmem.1 (hL y hy) (hlt y hy))
    cases hc : cl i t with
    | none =>
      obtain ⟨sts, p, h1, h2⟩ := collectToks_total text toks hinv cl rest (i + 1) prev hmem.2 hpw.2
        (fun x hx => hbef x (List.mem_cons_of_mem _ hx))
      exact ⟨sts, p, h1, fun L' hL hord => h2 L' hL (fun x hx => hord x (List.mem_cons_of_mem _ hx))⟩
    | some tm =>
      obtain ⟨st, hst⟩ := createSemTok_ok t prev text tm.1 tm.2 (sliceText_token text toks hinv t hmem.1)
        (hbef t List.mem_cons_self)
      obtain ⟨sts, p, h1, h2⟩ := collectToks_total text toks hinv cl rest (i + 1) _ hmem.2 hpw.2
        (hnext rest hmem.2 hpw.1)
      refine ⟨st :: sts, p, by simp only [hst, h1], fun L' hL hord _ => ?_⟩
      exact h2 L' hL (fun x hx => hord x (List.mem_cons_of_mem _ hx))
        (hnext L' hL (hord t List.mem_cons_self))

open Spl.ParseConform SemOrder in
theorem from_total (d : AnalyzedSource) (hinv : lex d.text = .ok d.tokens) :
    ∀ (p : Nat) (ds : List (Ref GlobalDecl)) (es : List (Nat × Nat)), Tiling d.tokens.toArray p ds es →
    ∀ prev, Before d.text prev (d.tokens.drop p) →
    ∃ sts p', semanticTokensFrom d ds prev = .ok (sts, p') ∧ Before d.text p' (d.tokens.drop (endOf p ds)) := by
  intro p ds
  induction ds generalizing p with
  | nil => intro _ _ prev hb; exact ⟨[], prev, rfl, hb⟩
  | cons gd rest ih =>
    intro es h prev hbef
    obtain ⟨k, es', ht, hd, hsplit, hend⟩ := tiling_cons d h
    have hpw := (tokens_strict d.text d.tokens hinv).sublist (List.drop_sublist p _)
    rw [hsplit] at hpw hbef
    rw [List.pairwise_append] at hpw
    obtain ⟨s1, p1, c1, c2⟩ := collectToks_total d.text d.tokens hinv
      (semClassify d gd.val ((d.tokens.take (k + 1)).drop p)) _ 0 prev
      (fun t ht => List.mem_of_mem_take (List.mem_of_mem_drop ht)) hpw.1
      (fun t ht => hbef t (List.mem_append_left _ ht))
    obtain ⟨s2, p2, e1, e2⟩ := ih (k + 1) es' ht p1 (c2 _ (fun t ht => List.mem_of_mem_drop ht) hpw.2.2
      (fun t ht => hbef t (List.mem_append_right _ ht)))
    rw [hend]
    exact ⟨s1 ++ s2, p2, by simp only [semanticTokensFrom, hd, c1, e1], e2⟩

open SemOrder in
/-- **On a valid program the handler answers**: no slice is out of range and no delta would be
    negative (the implementation's debug build panics on a negative delta, its release build wraps
    around) — for every text the lexer tokenises and the grammar specification derives the tree of. -/
theorem semantic_tokens_total (d : AnalyzedSource) (hinv : lex d.text = .ok d.tokens)
    (hp : Grammar.parse d.tokens = some d.ast) : ∃ sts, semanticTokens d = .ok sts := by
  obtain ⟨es, ht⟩ := ParseConform.parse_tiling d.tokens d.ast hp
  obtain ⟨s1, p1, h1, h2⟩ := from_total d hinv 0 _ es ht ⟨0, 0⟩ (fun t _ => lexLe_zero _)
  rw [← restStart_eq] at h2
  obtain ⟨s2, p2, c1, _⟩ := collectToks_total d.text d.tokens hinv (fun _ t => (mapTokenClass t).map (fun c => (c, 0)))
    (d.tokens.drop (restStart d)) 0 p1 (fun t ht => List.mem_of_mem_drop ht)
    ((tokens_strict d.text d.tokens hinv).sublist (List.drop_sublist _ _)) h2
  exact ⟨s1 ++ s2, by simp only [semanticTokens, h1, c1]⟩

/-- Non-vacuity: a document with a comment in front of a procedure, a type declaration and a trailing
    comment is derived by the grammar specification (so that, by C04.parse_conforms, its tree is that
    derivation and the three theorems above apply); the handler answers with eleven tokens. -/
example :
    (match AnalyzedSource.new "// doc\nproc a(x: int) {\n  x := 1;\n}\ntype t = int; // end".toList with
     | .ok d => (Grammar.parse d.tokens).isSome &&
         (match semanticTokens d with
          | .ok sts => sts.length == 11
          | .error _ => false)
     | .error _ => false) = true := by
  -- the literal's characters instead of its bytes: see the note at `C03.specVerdict_ofList`
  generalize h : String.toList _ = l
  rw [String.toList_ofList] at h
  subst h
  decide +kernel

/-- Non-vacuity: two identifiers on two lines are encoded as `(0,0)` and `(+1 line, column 0)`, and
    decoding gives the two positions back. -/
example :
    (match collectToks "ab\ncd".toList (fun _ _ => some (tyVariable, 0))
        [⟨.Ident "ab".toList, ⟨0, 2⟩, []⟩, ⟨.Ident "cd".toList, ⟨3, 5⟩, []⟩] 0 ⟨0, 0⟩ with
     | .ok (sts, p) => decide (sts = [⟨0, 0, 2, tyVariable, 0⟩, ⟨1, 0, 2, tyVariable, 0⟩] ∧ p = ⟨1, 0⟩ ∧
         decode ⟨0, 0⟩ sts = [⟨0, 0⟩, ⟨1, 0⟩])
     | .error _ => false) = true := by
  decide +kernel

/-- Lexical classes: comments, numbers (decimal, hexadecimal, character literals), keywords;
    symbols and other tokens are not classified. -/
theorem lexical_classes :
    mapTokenClass ⟨.Comment [], ⟨0, 1⟩, []⟩ = some tyComment ∧
    mapTokenClass ⟨.Int (.Int 1), ⟨0, 1⟩, []⟩ = some tyNumber ∧
    mapTokenClass ⟨.Hex (.Int 1), ⟨0, 1⟩, []⟩ = some tyNumber ∧
    mapTokenClass ⟨.Char 'a', ⟨0, 1⟩, []⟩ = some tyNumber ∧
    mapTokenClass ⟨.While, ⟨0, 1⟩, []⟩ = some tyKeyword ∧
    mapTokenClass ⟨.Plus, ⟨0, 1⟩, []⟩ = none := by decide

/-- The legend indices used by the handler (order of `TOKEN_TYPES`). -/
theorem legend_indices :
    [tyComment, tyKeyword, tyNumber, tyType, tyFunction, tyParameter, tyVariable] = [0, 1, 2, 3, 4, 5, 6] := rfl

end Spl.C15
