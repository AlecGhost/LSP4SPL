/-
  C14 — Hover and signature help tell the truth about declarations.  Property theorems only.
-/
import SplVerif.Model.Features
import SplVerif.Lemmas.ScopeExact

namespace Spl.C14
open Spl.Feat

/-- **The hover range is exactly the identifier's range** and the content is the rendered
    entry the identifier is looked up to (procedure context: own name → procedure, else locals
    before globals). -/
theorem hover_range_is_identifier (d : AnalyzedSource) (p : Pos) (c : Cursor) (ident : Ident)
    (pe : ProcedureEntry) (e : Entry)
    (hc : docCursor d p = .ok c) (hi : c.ident = some ident) (hx : c.context = some (.procedure pe))
    (hl : lookupIdent d pe ident = .ok (some e)) :
    hover d p = .ok (some (asPosRange ident.range d.text, createHover e)) := by
  simp [hover, hc, hi, hx, hl]

/-- The active parameter is the number of commas among the call's tokens that start before the
    cursor — `none` when the callee has no parameters. -/
theorem active_param_counts_commas (n : Nat) (toks : List Token) (idx : Nat) (hn : n ≠ 0) :
    activeParam n toks idx = some (activeParam.go idx toks 0) := by
  unfold activeParam
  have : (n == 0) = false := by simpa using hn
  simp [this]

theorem active_param_none (toks : List Token) (idx : Nat) : activeParam 0 toks idx = none := by
  simp [activeParam]

/-- Commas at or after the cursor are not counted. -/
theorem active_go_stops (idx : Nat) (t : Token) (rest : List Token) (k : Nat) (h : t.range.lo ≥ idx) :
    activeParam.go idx (t :: rest) k = k := by
  simp [activeParam.go, h]

/-- Signatures: reference marker, name, fully resolved type; procedures list their parameters. -/
example : varEntryStr ⟨⟨"a".toList, ⟨⟨0, 1⟩, []⟩⟩, true, some (.array (some 3) .int "t".toList), ⟨0, 0⟩, none⟩
    = "ref a: array [3] of int".toList := by decide +kernel

section
open Spl Spl.Feat Spl.Typing Spl.TypingSound Spl.ScopeExact

/-- how a resolved type of the typing specification is rendered: the structural embedding of the specification's
    types into the implementation's (`conv`: `int`, `boolean`, `array [n] of <element>` with its creator), printed by
    the model of `Display for DataType` -/
def tyStr (t : Ty) : List Char := dataTypeStr (conv t)

/- non-vacuity of the hypothesis `wellTyped p = true`: the kernel-evaluated examples of Props/C03.lean (`specVerdict … = some true`
   for a program with a type declaration, a procedure with reference and value parameters and `main`). -/
/-- **Hover tells the truth about types and about the types of variables and parameters.**  For every program the typing
    specification accepts, with the table `build` returns: the entry found under a declared type name renders as that
    type FULLY RESOLVED by the specification (aliases followed to `int` / `array [n] of …`), and every entry of a
    procedure's local table — found under the name of one of its parameters or variables, in declaration order —
    carries the resolved type of that parameter or variable. -/
theorem hover_types_truthful (p : Program) (h : wellTyped p = true) :
    ∃ table g, build p = .ok (p, table) ∧ declare predefined p.decls = some g ∧
      (∀ n t, g.find n = some (.type n t) →
        ∃ te, tblLookup table n = some (.type te) ∧ entryStr (.type te) = tyStr t) ∧
      (∀ n sig, g.find n = some (.proc sig) → (predefined.find n).isSome = false →
        ∃ pe, tblLookup table n = some (.procedure pe) ∧
          pe.localTable.map (fun kv => (kv.1, optTypeStr kv.2.entry.dataType)) =
            (sig.params ++ sig.locals).map (fun v => (v.name, tyStr v.ty))) := by
  obtain ⟨g, tf, hd, hc, hb, _⟩ := build_corr p h
  refine ⟨tf, g, hb, hd, fun n t hf => ?_, fun n sig hf hnp => ?_⟩
  · obtain ⟨te, hl, hdt⟩ := corr_type hc hf
    exact ⟨te, hl, by simp only [entryStr, optTypeStr, hdt, tyStr]⟩
  · obtain ⟨pe, hp, _, hl⟩ := corr_proc hc hf
    have hl := (localRel_iff _ _).mp (hl.resolve_left (Bool.eq_false_iff.mp hnp))
    exact ⟨pe, hp, (hl.map_eq fun v kv r => (Prod.ext r.1 (congrArg optTypeStr r.2)).symm).symm⟩

end

end Spl.C14
