/-
  C17 — Folding ranges match procedure extents.
-/
import SplVerif.Model.Features
import SplVerif.Lemmas.FoldPos
import SplVerif.Lemmas.Extents

namespace Spl.C17
open Spl.Feat

def isProc : Ref GlobalDecl → Bool
  | ⟨.proc _, _⟩ => true
  | _ => false

theorem foldDecls_ok {d : AnalyzedSource} : ∀ {decls : List (Ref GlobalDecl)} {rs : List (Nat × Nat)},
    foldDecls d decls = .ok rs →
    rs.length = (decls.filter isProc).length ∧ ∀ r ∈ rs, ∃ pd off, foldOne d pd off = .ok r
  | [], _, h => by
    cases h
    exact ⟨rfl, fun _ h => nomatch h⟩
  | ⟨.proc pd, off⟩ :: rest, rs, h => by
    simp only [foldDecls] at h
    split at h
    · cases h
    rename_i r h1
    split at h <;> cases h
    rename_i rs' h2
    obtain ⟨ih1, ih2⟩ := foldDecls_ok h2
    exact ⟨congrArg (· + 1) ih1, List.forall_mem_cons.mpr ⟨⟨pd, off, h1⟩, ih2⟩⟩
  | ⟨.type _, _⟩ :: rest, rs, h | ⟨.error _, _⟩ :: rest, rs, h => foldDecls_ok (decls := rest) h

/-- **One range per procedure declaration, in source order** — for every document on which
    the handler does not fail: type declarations and error nodes produce nothing, every
    procedure declaration exactly one range. -/
theorem fold_one_per_procedure (d : AnalyzedSource) (decls : List (Ref GlobalDecl)) (rs : List (Nat × Nat))
    (h : foldDecls d decls = .ok rs) : rs.length = (decls.filter isProc).length :=
  (foldDecls_ok h).1

/-- The start of a range is taken after the documentation comments of the procedure. -/
theorem skip_leading_comments_head (ts : List Token) :
    ∀ t, (skipLeadingComments ts).head? = some t → t.kind ≠ .Comment := by
  induction ts with
  | nil => intro t h; cases h
  | cons a rest ih =>
    intro t h
    simp only [skipLeadingComments] at h
    split at h
    · exact ih t h
    · rename_i hk
      cases h
      simpa using hk

theorem skipLeadingComments_suffix (ts : List Token) : skipLeadingComments ts <:+ ts := by
  induction ts with
  | nil => exact List.suffix_refl _
  | cons a rest ih =>
    simp only [skipLeadingComments]
    split
    · exact ih.trans (List.suffix_cons a rest)
    · exact List.suffix_refl _

/-- what `foldOne` answers with: the lines of two character boundaries of the text, one behind the
    other (start of the first and end of the last token of a stretch of the document's tokens) -/
theorem foldOne_ok {d : AnalyzedSource} (hinv : lex d.text = .ok d.tokens) {pd : ProcDecl} {offset : Nat}
    {r : Nat × Nat} (h : foldOne d pd offset = .ok r) :
    ∃ x y, FoldPos.Cut d.text x ∧ FoldPos.Cut d.text y ∧ x ≤ y ∧
      r = ((asPosition x d.text).line, (asPosition y d.text).line) := by
  unfold foldOne at h
  split at h
  · cases h
  rename_i s hs
  cases h
  have hsub : (skipLeadingComments s.toList).Sublist d.tokens := by
    have h3 : s.toks = d.tokens.toArray := by
      simp only [allTokens, Slice.full, Slice.sub] at hs
      obtain ⟨_, hs⟩ := Option.ite_none_right_eq_some.mp hs
      cases hs
      rfl
    refine (skipLeadingComments_suffix _).sublist.trans ?_
    simp only [Slice.toList, Array.toList_extract, List.extract_eq_take_drop, h3]
    exact (List.take_sublist _ _).trans (List.drop_sublist _ _)
  obtain ⟨hpw, hle⟩ := FoldPos.tokens_layout d.text d.tokens hinv
  have hcut := fun t ht => FoldPos.token_bounds_are_cuts hinv (t := t) ht
  cases hts : skipLeadingComments s.toList with
  | nil => exact ⟨0, 0, ⟨[], d.text, rfl, rfl⟩, ⟨[], d.text, rfl, rfl⟩, Nat.le_refl 0, rfl⟩
  | cons f xs =>
    rw [hts] at hsub
    have hf := hsub.subset List.mem_cons_self
    cases hl : (f :: xs).getLast? with
    | none => simp at hl
    | some l =>
      have hlm := hsub.subset (List.mem_of_getLast? hl)
      refine ⟨f.range.lo, l.range.hi, (hcut f hf).1, (hcut l hlm).2, ?_, by simp only [List.head?_cons, asPosRange]⟩
      cases xs with
      | nil =>
        cases (by simpa using hl : f = l)
        exact hle f hf
      | cons y ys =>
        rw [List.getLast?_cons_cons] at hl
        have := (List.pairwise_cons.mp (hpw.sublist hsub)).1 l (List.mem_of_getLast? hl)
        have := hle l hlm
        omega

/-- **Every folding range is well-formed: it starts on or before the line it ends on** — for
    every document whose token vector is the tokenisation of its text (which `AnalyzedSource::new`
    and, by C07, every `update` guarantee), whatever the tree looks like. -/
theorem fold_start_le_end (d : AnalyzedSource) (hinv : lex d.text = .ok d.tokens)
    (pd : ProcDecl) (offset : Nat) (r : Nat × Nat) (h : foldOne d pd offset = .ok r) : r.1 ≤ r.2 := by
  obtain ⟨x, y, hx, hy, hxy, rfl⟩ := foldOne_ok hinv h
  exact FoldPos.asPosition_line_mono hx hy hxy

/-- … hence every range the folding handler returns is well-formed. -/
theorem fold_wellformed (d : AnalyzedSource) (hinv : lex d.text = .ok d.tokens)
    (decls : List (Ref GlobalDecl)) (rs : List (Nat × Nat)) (h : foldDecls d decls = .ok rs) :
    ∀ r ∈ rs, r.1 ≤ r.2 := fun r hr =>
  let ⟨pd, off, h1⟩ := (foldDecls_ok h).2 r hr
  fold_start_le_end d hinv pd off r h1

/-- **Every folding range lies inside the document**: it ends no later than the last line of the
    text — for every document whose token vector is the tokenisation of its text. -/
theorem fold_end_inside (d : AnalyzedSource) (hinv : lex d.text = .ok d.tokens)
    (pd : ProcDecl) (offset : Nat) (r : Nat × Nat) (h : foldOne d pd offset = .ok r) :
    r.2 ≤ (asPosition (utf8Len d.text) d.text).line := by
  obtain ⟨x, y, _, hy, _, rfl⟩ := foldOne_ok hinv h
  exact FoldPos.asPosition_line_mono hy ⟨d.text, [], (List.append_nil _).symm, rfl⟩ hy.le

open Spl.ParseConform in
/-- `FoldsAre A text es rs`: `rs` lists, for every extent `(i, k)` of `es` in order, the line on
    which token `i` starts and the line on which token `k` ends -/
inductive FoldsAre (A : Array Token) (text : List Char) : List (Nat × Nat) → List (Nat × Nat) → Prop
  | nil : FoldsAre A text [] []
  | cons (i k : Nat) (tp tb : Token) (es rs : List (Nat × Nat)) :
      A[i]? = some tp → A[k]? = some tb → FoldsAre A text es rs →
      FoldsAre A text ((i, k) :: es)
        (((asPosition tp.range.lo text).line, (asPosition tb.range.hi text).line) :: rs)

theorem drop_take_cons (l : List Token) (p hi : Nat) (t : Token) (h : l[p]? = some t) (hp : p < hi) :
    (l.take hi).drop p = t :: (l.take hi).drop (p + 1) := by
  obtain ⟨hl, rfl⟩ := List.getElem?_eq_some_iff.mp ((List.getElem?_take_of_lt hp).trans h)
  exact List.drop_eq_getElem_cons hl

theorem skip_run (l : List Token) (hi : Nat) : ∀ (n p i : Nat), i - p = n → p ≤ i → i < hi →
    (∀ q, p ≤ q → q < i → ∃ t, l[q]? = some t ∧ t.kind = .Comment) →
    (∃ t, l[i]? = some t ∧ t.kind ≠ .Comment) →
    skipLeadingComments ((l.take hi).drop p) = (l.take hi).drop i
  | 0, p, i, hn, hle, hhi, _, ⟨t, ht, hk⟩ => by
    cases (by omega : p = i)
    rw [drop_take_cons l p hi t ht hhi, skipLeadingComments, if_neg (mt eq_of_beq hk)]
  | n + 1, p, i, hn, hle, hhi, hc, htok => by
    obtain ⟨t, ht, hk⟩ := hc p (Nat.le_refl _) (by omega)
    rw [drop_take_cons l p hi t ht (by omega), skipLeadingComments, if_pos (beq_iff_eq.mpr hk)]
    exact skip_run l hi n (p + 1) i (by omega) (by omega) hhi (fun q a b => hc q (by omega) b) htok

open Spl.ParseConform in
/-- one procedure: the handler's range starts on the line of the `proc` keyword and ends on the
    line of the closing brace -/
theorem foldOne_exact (d : AnalyzedSource) (p i k : Nat) (pd : ProcDecl) (tp tb : Token)
    (hN : Next d.tokens.toArray p i) (hi : d.tokens.toArray[i]? = some tp) (hik : i < k)
    (hk : d.tokens.toArray[k]? = some tb) (hr : pd.info.range = ⟨0, k + 1 - p⟩) :
    foldOne d pd p = .ok ((asPosition tp.range.lo d.text).line, (asPosition tb.range.hi d.text).line) := by
  obtain ⟨hpi, hcm, htok⟩ := hN
  simp only [List.getElem?_toArray] at hi hk hcm htok
  have hksz : k < d.tokens.length := (List.getElem?_eq_some_iff.mp hk).1
  have hsub : (allTokens d).sub (pd.info.range.shift p) = some ⟨d.tokens.toArray, p, k + 1⟩ := by
    simp only [allTokens, Slice.full, Slice.sub, hr, Range.shift]
    rw [if_pos ⟨by omega, by simp only [List.size_toArray]; omega⟩]
    congr 2 <;> omega
  have hskip : skipLeadingComments (Slice.toList ⟨d.tokens.toArray, p, k + 1⟩) = (d.tokens.take (k + 1)).drop i := by
    simp only [Slice.toList, Array.toList_extract, List.extract_eq_take_drop, ← List.drop_take]
    exact skip_run d.tokens (k + 1) (i - p) p i rfl hpi (by omega) hcm htok
  have hhead : ((d.tokens.take (k + 1)).drop i).head? = some tp := by
    rw [List.head?_drop, List.getElem?_take_of_lt (by omega), hi]
  have hlast : ((d.tokens.take (k + 1)).drop i).getLast? = some tb := by
    rw [List.getLast?_drop, if_neg (by rw [List.length_take]; omega), List.getLast?_take, if_neg (by omega),
      Nat.add_sub_cancel, hk, Option.some_or]
  simp only [foldOne, hsub, hskip, hhead, hlast, asPosRange]
open Spl.ParseConform in
theorem foldDecls_exact (d : AnalyzedSource) : ∀ (p : Nat) (ds : List (Ref GlobalDecl)) (es : List (Nat × Nat)),
    Tiling d.tokens.toArray p ds es →
    ∃ rs, foldDecls d ds = .ok rs ∧ FoldsAre d.tokens.toArray d.text es rs := by
  intro p ds es h
  induction h with
  | nil p => exact ⟨[], rfl, FoldsAre.nil⟩
  | type p i k td rest es _ _ _ _ _ _ ih =>
    obtain ⟨rs, h1, h2⟩ := ih
    exact ⟨rs, by simp only [foldDecls, h1], h2⟩
  | proc p i k pd rest es hN hi hik hk hr _ ih =>
    obtain ⟨rs, h1, h2⟩ := ih
    obtain ⟨tp, htp, _⟩ := hi
    obtain ⟨tb, htb, _⟩ := hk
    refine ⟨_ :: rs, ?_, FoldsAre.cons i k tp tb es rs htp htb h2⟩
    simp only [foldDecls, foldOne_exact d p i k pd tp tb hN htp hik htb hr, h1]

open Spl.ParseConform in
/-- **Exact folding ranges of valid programs, in any layout.**  If the grammar specification
    derives the document's program from its tokens (comments anywhere, any white space), the
    handler returns exactly one range per procedure declaration, in source order (`Tiling`:
    the declarations lie one behind the other, `es` are the indices of each procedure's `proc`
    keyword — the first token behind its documentation comments — and of its closing brace);
    each range starts on the line on which that `proc` keyword starts and ends on the line on
    which that closing brace ends. -/
theorem fold_exact (d : AnalyzedSource) (hp : Grammar.parse d.tokens = some d.ast) :
    ∃ es rs, Tiling d.tokens.toArray 0 d.ast.decls es ∧ fold d = .ok rs ∧
      FoldsAre d.tokens.toArray d.text es rs := by
  obtain ⟨es, ht⟩ := parse_tiling d.tokens d.ast hp
  obtain ⟨rs, h1, h2⟩ := foldDecls_exact d 0 d.ast.decls es ht
  exact ⟨es, rs, ht, h1, h2⟩

theorem foldsAre_mem {A : Array Token} {text : List Char} {es rs : List (Nat × Nat)} (h : FoldsAre A text es rs) :
    ∀ r ∈ rs, ∃ e ∈ es, ∃ tp, A[e.1]? = some tp ∧ r.1 = (asPosition tp.range.lo text).line := by
  induction h with
  | nil => exact fun _ h => nomatch h
  | cons i k tp tb es rs h1 _ _ ih =>
    refine List.forall_mem_cons.mpr ⟨⟨(i, k), List.mem_cons_self, tp, h1, rfl⟩, fun r hr => ?_⟩
    obtain ⟨e, he, x⟩ := ih r hr
    exact ⟨e, List.mem_cons_of_mem _ he, x⟩

open Spl.ParseConform in
/-- **The ranges of a valid program come in source order and do not overlap**: every range ends
    no later than the line on which the next one starts (two procedures on one line share that
    line; no range reaches beyond the start line of a later one). -/
theorem fold_ordered (d : AnalyzedSource) (hinv : lex d.text = .ok d.tokens)
    (hp : Grammar.parse d.tokens = some d.ast) (rs : List (Nat × Nat)) (h : fold d = .ok rs) :
    rs.Pairwise (fun a b => a.2 ≤ b.1) := by
  obtain ⟨es, rs', ht, h1, h2⟩ := fold_exact d hp
  cases h.symm.trans h1
  have hso := (tiling_sorted _ _ _ _ ht).2
  clear ht h h1
  induction h2 with
  | nil => exact .nil
  | cons i k tp tb es rs h1 h2 hfa ih =>
    rw [List.pairwise_cons] at hso ⊢
    refine ⟨fun r hr => ?_, ih hso.2⟩
    obtain ⟨e, he, tp', g1, g2⟩ := foldsAre_mem hfa r hr
    -- the closing brace `k` lies in front of the later extent's `proc` keyword `e.1`
    obtain ⟨hk, rfl⟩ := List.getElem?_eq_some_iff.mp (List.getElem?_toArray ▸ h2)
    obtain ⟨he1, rfl⟩ := List.getElem?_eq_some_iff.mp (List.getElem?_toArray ▸ g1)
    rw [g2]
    exact FoldPos.asPosition_line_mono (FoldPos.token_bounds_are_cuts hinv (List.getElem_mem _)).2
      (FoldPos.token_bounds_are_cuts hinv (List.getElem_mem _)).1
      (List.pairwise_iff_getElem.mp (FoldPos.tokens_sorted d.text d.tokens hinv) k e.1 hk he1 (hso.1 e he))

/-- Non-vacuity: a document with a documentation comment, two procedures and a type declaration
    is derived by the grammar specification (so that, by C04.parse_conforms, its tree is that
    derivation and `fold_exact` applies), and its ranges are the ones the theorem describes. -/
example :
    (match AnalyzedSource.new "// doc\nproc a() {\n}\ntype t = int;\nproc b() {\n  // c\n}".toList with
     | .ok d => (Grammar.parse d.tokens).isSome &&
         (match fold d with
          | .ok rs => rs == [(1, 2), (4, 6)]
          | .error _ => false)
     | .error _ => false) = true := by
  -- the literal's characters instead of its bytes: see the note at `C03.specVerdict_ofList`
  generalize h : String.toList _ = l
  rw [String.toList_ofList] at h
  subst h
  decide +kernel

end Spl.C17
