/-
  C03 — Diagnostics are exactly what SPL prescribes, and point at the culprit.
  Property theorems only.
-/
import SplVerif.Lemmas.Cursor
import SplVerif.Lemmas.TypingSound
import SplVerif.Lemmas.ParseClean

namespace Spl.C03

/-- One published diagnostic per diagnostic attached to the tree, in tree order, with the same
    message: publishing neither drops, duplicates nor re-labels a diagnostic. -/
theorem published_one_to_one (toks : Array Token) (l es : List SplError)
    (h : convErrs toks l = .ok es) : es.map (·.msg) = l.map (·.msg) := by
  induction l generalizing es with
  | nil =>
    cases h
    rfl
  | cons e l ih =>
    rw [convErrs] at h
    split at h
    · cases h
    · split at h
      · cases h
      · cases h
        rw [List.map_cons, List.map_cons, ih _ ‹_›]

/-- A converted range lies inside the text whenever the token vector tiles it: the start is a
    token start and the end a token end. -/
theorem tokenRange_bounds (toks : Array Token) (r out : Range)
    (h : tokenRangeToText toks r = .ok out) :
    (∃ t ∈ toks.toList, out.hi = t.range.hi) := by
  unfold tokenRangeToText at h
  split at h
  · split at h <;> cases h
    exact ⟨_, Array.mem_def.mp (Array.mem_of_getElem? ‹_›), rfl⟩
  · split at h
    · cases h
    · split at h <;> cases h
      exact ⟨_, Array.mem_def.mp (Array.mem_of_getElem? ‹_›), rfl⟩

/-- **The static analysis attaches nothing to a valid program.**  For every tree the independent
    typing specification accepts — any number and order of declarations, any nesting of array types,
    statements and expressions — building the symbol table and the semantic analysis of the model
    return the tree as it is: no build or semantic diagnostic anywhere (proof: `Lemmas/TypingSound`,
    a simulation between the specification's environment and the implementation's tables). -/
theorem welltyped_analysis_identity (p : Program) (h : Typing.wellTyped p = true) :
    ∃ table, build p = .ok (p, table) ∧ analyze p table = .ok p :=
  TypingSound.welltyped_identity p h

/-- Hence the diagnostics of a document whose tree is well-typed are exactly the diagnostics the
    parser attached to that tree; in particular there are none if the parser attached none. -/
theorem welltyped_diagnostics (text : List Char) (toks : List Token) (prog : Program)
    (hl : lex text = .ok toks) (hp : Parse.parse toks = .ok prog) (hw : Typing.wellTyped prog = true) :
    ∃ d, AnalyzedSource.new text = .ok d ∧ d.ast = prog ∧ d.tokens = toks ∧
      d.errors = convErrs toks.toArray prog.errors ∧
      (prog.errors = [] → d.errors = .ok []) := by
  obtain ⟨table, hb, ha⟩ := welltyped_analysis_identity prog hw
  refine ⟨{ text := text, tokens := toks, ast := prog, table := table }, ?_, rfl, rfl, rfl, ?_⟩
  · simp [AnalyzedSource.new, hl, hp, hb, ha]
  · intro he
    simp [AnalyzedSource.errors, he, convErrs]

theorem lex_ends_with_token (text : List Char) (toks : List Token) (hl : lex text = .ok toks) :
    ParseConform.EndsWithToken toks.toArray := by
  cases (lex_eq text).symm.trans hl
  exact ⟨eofToken (utf8Len text), by simp, fun h => nomatch h⟩

/-- **A valid SPL text gets no diagnostics at all** (the first sentence of the property, for the
    model, end to end): if the text lexes, the independent grammar specification derives a program
    from its tokens and the independent typing specification accepts that program, then
    `AnalyzedSource::new` succeeds, its tree is that program, and it publishes nothing.
    (`parse_conforms` + `parse_errors_nil` + `welltyped_analysis_identity`; the lexical side is
    C06's `lex_conforms`.) -/
theorem valid_text_no_diagnostics (text : List Char) (toks : List Token) (p : Program)
    (hl : lex text = .ok toks) (hg : Grammar.parse toks = some p) (hw : Typing.wellTyped p = true) :
    ∃ d, AnalyzedSource.new text = .ok d ∧ d.ast = p ∧ d.errors = .ok [] := by
  have hp := ParseConform.parse_conforms toks p hg (lex_ends_with_token text toks hl)
  obtain ⟨d, h1, h2, _, _, h5⟩ := welltyped_diagnostics text toks p hl hp hw
  exact ⟨d, h1, h2, h5 (ParseConform.parse_errors_nil toks p hg)⟩

/-- The specification's verdict on a text: `some true` = syntactically valid and well-typed. -/
def specVerdict (text : String) : Option Bool :=
  match lex text.toList with
  | .error _ => none
  | .ok ts => (Grammar.parseAbs ts).map (fun p => Typing.wellTyped (Grammar.relativize p))

/-- Number of diagnostics the model of `AnalyzedSource::new` attaches to a text. -/
def modelDiagnostics (text : String) : Option Nat :=
  match AnalyzedSource.new text.toList with
  | .ok d => some d.ast.errors.length
  | .error _ => none

/- A literal is `String.ofList` of its characters by definition; evaluating `String.toList` of it decodes
   UTF-8 bytes instead, which takes the kernel longer than lexing, parsing and typing the text. -/
theorem specVerdict_ofList (l : List Char) : specVerdict (String.ofList l) = match lex l with
    | .error _ => none
    | .ok ts => (Grammar.parseAbs ts).map (fun p => Typing.wellTyped (Grammar.relativize p)) := by
  rw [specVerdict, String.toList_ofList]

theorem modelDiagnostics_ofList (l : List Char) :
    modelDiagnostics (String.ofList l) = match AnalyzedSource.new l with
    | .ok d => some d.ast.errors.length
    | .error _ => none := by
  rw [modelDiagnostics, String.toList_ofList]

/-! Non-vacuity of the specification and of the model, evaluated by the kernel: a program with
    nested arrays, a reference parameter, a call and a comparison is well-typed and gets no
    diagnostic; with an integer as the condition it is ill-typed and gets exactly one. -/
example : specVerdict "type m = array [2] of array [3] of int; proc f(ref a: m, i: int) { a[1][i] := i + 1; } proc main() { var x: m; if (1 < 2) f(x, 0); }" = some true := by
  rw [specVerdict_ofList]
  decide +kernel
example : modelDiagnostics "type m = array [2] of array [3] of int; proc f(ref a: m, i: int) { a[1][i] := i + 1; } proc main() { var x: m; if (1 < 2) f(x, 0); }" = some 0 := by
  rw [modelDiagnostics_ofList]
  decide +kernel
example : specVerdict "type m = array [2] of array [3] of int; proc f(ref a: m, i: int) { a[1][i] := i + 1; } proc main() { var x: m; if (1 + 2) f(x, 0); }" = some false := by
  rw [specVerdict_ofList]
  decide +kernel
example : modelDiagnostics "type m = array [2] of array [3] of int; proc f(ref a: m, i: int) { a[1][i] := i + 1; } proc main() { var x: m; if (1 + 2) f(x, 0); }" = some 1 := by
  rw [modelDiagnostics_ofList]
  decide +kernel


/-- **Every published range lies inside the document.**  Whatever byte range a diagnostic carries (also one that ends
    inside a multi-byte character or beyond the text), both positions of the published LSP range are positions of
    character boundaries of the document's text: `as_position` never invents a line or a column that the text does
    not have. -/
theorem published_range_inside (r : Range) (text : List Char) :
    ∃ a b a' b', text = a ++ b ∧ text = a' ++ b' ∧
      Feat.asPosRange r text = (asPosition (utf8Len a) text, asPosition (utf8Len a') text) := by
  obtain ⟨a, b, e1, h1⟩ := CursorLemmas.asPosition_boundary r.lo text
  obtain ⟨a', b', e2, h2⟩ := CursorLemmas.asPosition_boundary r.hi text
  exact ⟨a, b, a', b', e1, e2, by simp [Feat.asPosRange, h1, h2]⟩

end Spl.C03
