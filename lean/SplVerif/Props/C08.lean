/-
  C08 — The server's copy of a document always equals the client's, positions included.
  Property theorems only.
-/
import SplVerif.Lemmas.Doc

namespace Spl.C08
open LspPos

/-- **Position semantics.** For every text and every position (valid or overshooting), the
    byte index computed by `get_insertion_index` is the offset the LSP specification assigns:
    lines end at `\n`, `\r\n` or `\r`, columns are UTF-16 units, a column past the end of a
    line is the end of that line, a line past the end is the end of the text. -/
theorem index_eq_spec (t : List Char) (p : Pos) : insertionIndex p t = offsetOf t p := by
  have := insertionIndexGo_eq t 0 p 0 0 (Nat.zero_le _)
  simpa [insertionIndex, offsetOf, remCol] using this

/-- A range-less change replaces the whole text on the server, as on the client. -/
theorem replaceRange_full (t ins : List Char) : replaceRange t 0 (utf8Len t) ins = some ins := by
  unfold replaceRange
  have h0 : splitAtByte t 0 = some ([], t) := by cases t <;> simp [splitAtByte]
  have h1 := splitAtByte_append t []
  rw [List.append_nil] at h1
  simp [h0, h1]

/-- One notification: the server's running text after converting and applying the batch of
    content changes (each relative to its predecessor) is the client's text; the server
    panics exactly when the client-side edit is undefined (reversed range). -/
theorem batch_sync (cs : List ContentChange) (t : List Char) :
    (match toTextChanges cs t with
     | .ok (_, t') => some t'
     | .error _ => none) = applyAll cs t := by
  induction cs generalizing t with
  | nil => rfl
  | cons ch rest ih =>
    simp only [toTextChanges, applyAll, applyChange]
    cases ch.range with
    | none =>
      simp only [replaceRange_full, Option.bind_some]
      rw [← ih ch.text]
      cases toTextChanges rest ch.text <;> rfl
    | some se =>
      simp only [index_eq_spec]
      cases replaceRange t (offsetOf t se.1) (offsetOf t se.2) ch.text with
      | none => rfl
      | some t' =>
        simp only [Option.bind_some]
        rw [← ih t']
        cases toTextChanges rest t' <;> rfl

/-- **Synchronisation.** After any sequence of `didChange` notifications (ranged edits,
    batches, full-text replacements; valid or overshooting positions) the text the server
    holds equals the text the client holds under the LSP position rules. -/
theorem sync (ns : List (List ContentChange)) (t : List Char) :
    (match Spl.applyNotifications ns t with
     | .ok t' => some t'
     | .error _ => none) = LspPos.applyNotifications ns t := by
  induction ns generalizing t with
  | nil => rfl
  | cons n rest ih =>
    rw [Spl.applyNotifications, LspPos.applyNotifications, ← batch_sync n t]
    cases toTextChanges n t with
    | error e => rfl
    | ok r => exact ih r.2

/-- the walk of `as_position` never goes back: the line does not decrease, and on the same line
    the column does not decrease -/
theorem asPositionGo_mono : ∀ (t : List Char) (i idx l c : Nat),
    l < (asPositionGo t i idx l c).line ∨
      ((asPositionGo t i idx l c).line = l ∧ c ≤ (asPositionGo t i idx l c).col)
  | [], i, idx, l, c => Or.inr ⟨rfl, Nat.le_refl c⟩
  | ch :: rest, i, idx, l, c => by
    rw [asPositionGo_cons]
    split
    · exact Or.inr ⟨rfl, Nat.le_refl c⟩
    · have := asPositionGo_mono rest (i + ch.utf8Size) idx (stepLC ch rest l c).1 (stepLC ch rest l c).2
      have := stepLC_mono ch rest l c
      omega

/-- **Round trip.**  For every text `a ++ b` and the byte index at the boundary between `a` and
    `b` — unless that boundary lies between the `\r` and the `\n` of a CRLF pair —
    `get_insertion_index(as_position(index))` is `index` again: a position the server reports
    (token ranges, diagnostics, edits) addresses, when sent back, the byte it was computed from. -/
theorem roundtrip_go : ∀ (a b : List Char) (i l c : Nat),
    ¬ (a.getLast? = some '\r' ∧ b.head? = some '\n') →
    insertionIndexGo (a ++ b) i (asPositionGo (a ++ b) i (i + utf8Len a) l c) l c = i + utf8Len a
  | [], b, i, l, c, _ => by
    cases b <;> simp [asPositionGo, insertionIndexGo]
  | ch :: a', b, i, l, c, hb => by
    have hsz := utf8Size_pos ch
    have e : i + utf8Len (ch :: a') = (i + ch.utf8Size) + utf8Len a' := by
      simp only [utf8Len_cons]; omega
    have hb' : ¬ (a'.getLast? = some '\r' ∧ b.head? = some '\n') :=
      fun hh => hb ⟨by rw [List.getLast?_cons, hh.1]; rfl, hh.2⟩
    rw [List.cons_append, asPositionGo_cons_ne (by omega), e, insertionIndexGo_cons]
    have hcases := stepLC_cases ch (a' ++ b) l c
    generalize stepLC ch (a' ++ b) l c = st at hcases ⊢
    obtain ⟨l', c'⟩ := st
    have hm := asPositionGo_mono (a' ++ b) (i + ch.utf8Size) (i + ch.utf8Size + utf8Len a') l' c'
    -- the way back does not stop at `ch`: the reported position lies behind it
    rw [if_neg, roundtrip_go a' b (i + ch.utf8Size) l' c' hb']
    simp only [Bool.and_eq_true, Bool.or_eq_true, beq_iff_eq, decide_eq_true_eq, not_and, not_or]
    intro hl
    rcases hcases with ⟨h, _⟩ | ⟨h, h1, h2⟩ | ⟨h, hch, hhead⟩ <;> cases h
    · omega
    · have := utf16Len_pos ch
      exact ⟨⟨by omega, h1⟩, h2⟩
    · -- the `\r` of a CRLF pair: the `\n` follows inside `a'`, and ends the line
      cases a' with
      | nil => exact absurd ⟨by rw [hch]; rfl, hhead⟩ hb
      | cons d a'' =>
        cases (by simpa using hhead : d = '\n')
        have hne : i + ch.utf8Size ≠ i + ch.utf8Size + utf8Len ('\n' :: a'') := by
          have := utf8Size_pos '\n'
          simp only [utf8Len_cons]; omega
        rw [List.cons_append, asPositionGo_cons_ne hne,
          show stepLC '\n' (a'' ++ b) l c = (l + 1, 0) from rfl] at hl
        dsimp only at hl
        have := asPositionGo_mono (a'' ++ b) (i + ch.utf8Size + '\n'.utf8Size)
          (i + ch.utf8Size + utf8Len ('\n' :: a'')) (l + 1) 0
        exact absurd hl (by omega)

/-- **C08, second sentence.**  For every text and every byte index on a character boundary that
    is not between the `\r` and `\n` of a CRLF pair (every token start is such an index, and every
    token end except that of an unterminated character literal `'\r` directly before `\n`), the
    position the server reports for the index addresses, when sent back, that same index. -/
theorem position_roundtrip (a b : List Char)
    (h : ¬ (a.getLast? = some '\r' ∧ b.head? = some '\n')) :
    insertionIndex (asPosition (utf8Len a) (a ++ b)) (a ++ b) = utf8Len a := by
  have := roundtrip_go a b 0 0 0 h
  simpa [insertionIndex, asPosition] using this

/-- Non-vacuity: an astral character, CRLF, an overshooting column and a full-text change. -/
example : insertionIndex ⟨1, 99⟩ "a😀\r\nbé\r\nc".toList = 10 := by decide +kernel
example : insertionIndex ⟨0, 2⟩ "a😀b".toList = 5 := by decide +kernel

end Spl.C08
