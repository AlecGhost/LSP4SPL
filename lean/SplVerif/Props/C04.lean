/-
  C04 — The syntax tree is the derivation the SPL grammar mandates.  Property theorems only.
-/
import SplVerif.Lemmas.ParserTables
import SplVerif.Spec.Grammar
import SplVerif.Lemmas.ParseConform
import SplVerif.Lemmas.ParseConformStmt
import SplVerif.Lemmas.ParseConformDecl

namespace Spl.C04

/-- Table obligation over the regenerated `tag_parser!` instances. -/
theorem tag_parsers_ok : TagParsersOK = true := by decide +kernel

/-- Relativising never changes a program's own range, only re-bases what lies under a `Reference`. -/
theorem relativize_info (p : Program) : (Grammar.relativize p).info = p.info := rfl

/-- The number and order of global declarations is preserved by the range convention change. -/
theorem relativize_decls_length (p : Program) : (Grammar.relativize p).decls.length = p.decls.length := by
  simp [Grammar.relativize]

/-- **Expressions are parsed into the derivation the grammar mandates** (operator precedence,
    left associativity, non-associative comparison, unary minus, parentheses, indexed variables at any
    nesting depth, any comments in between).  For every token array, every position directly behind a
    token and every state of the parser: whenever the grammar specification derives an expression
    `e` from the non-comment tokens at that position, `Expression::parse` of the model succeeds,
    consumes exactly those tokens, reports nothing, and returns `e` in the implementation's range
    convention (ranges relative to the enclosing `Reference`, each node covering its own tokens plus
    the comment run in front of its first token). -/
theorem expression_conforms (ctx : Parse.Ctx) {fs : Nat} {ts rest : Grammar.Toks} {e : Expr} {sp : Grammar.Span}
    {s : Parse.St} (hs : Grammar.expr ⟨ctx.toks⟩ fs ts = some (e, sp, rest)) (hat : ParseConform.At ctx s ts) :
    Parse.parseExpression ctx (Parse.exprFuel ctx) none s =
      .ok { s with pos := sp.last + 1 } (Grammar.relExpr s.refPos e) ∧
    e.info.range = ⟨s.pos, sp.last + 1⟩ ∧ ParseConform.At ctx { s with pos := sp.last + 1 } rest :=
  let ⟨a, _, _, b, c⟩ := ParseConform.expression_conforms ctx hs hat
  ⟨a, b, c⟩

/-- **Type expressions are parsed into the derivation the grammar mandates** (named types and nested
    `array [n] of …` at any depth, comments anywhere; all token arrays, positions and parser states). -/
theorem type_expression_conforms (ctx : Parse.Ctx) {fs : Nat} {ts rest : Grammar.Toks} {t : TypeExpr} {sp : Grammar.Span}
    {s : Parse.St} {fm : Nat} (hs : Grammar.typeExpr ⟨ctx.toks⟩ fs ts = some (t, sp, rest)) (hat : ParseConform.At ctx s ts)
    (hfm : ts.length + 1 ≤ fm) :
    Parse.parseTypeExpr ctx fm none s = .ok { s with pos := sp.last + 1 } (Grammar.relType s.refPos t) ∧
    t.info.range = ⟨s.pos, sp.last + 1⟩ ∧ ParseConform.At ctx { s with pos := sp.last + 1 } rest :=
  let ⟨a, _, _, b, c⟩ := ParseConform.typeExpr_conf ctx fs ts t sp rest hs fm s hat hfm
  ⟨a, b, c⟩

/-- **Statements are parsed into the derivation the grammar mandates**: the empty statement, `if` with
    and without `else` (the `else` belongs to the nearest `if`), `while`, blocks, calls with any
    number of arguments and assignments to indexed variables, nested to any depth, with comments
    anywhere.  Whenever the grammar specification derives a statement `t` at a position, `Statement::parse`
    of the model succeeds there with enough fuel (`2 · remaining tokens + 2`; the model uses
    `2 · all tokens + 16`), consumes exactly the statement's tokens, reports nothing and returns `t` in
    the implementation's range convention. -/
theorem statement_conforms (ctx : Parse.Ctx) {fs : Nat} {ts rest : Grammar.Toks} {t : Stmt} {sp : Grammar.Span}
    {s : Parse.St} {fm : Nat} (hs : Grammar.stmt ⟨ctx.toks⟩ fs ts = some (t, sp, rest)) (hat : ParseConform.At ctx s ts)
    (hfm : 2 * ts.length + 2 ≤ fm) :
    Parse.parseStmt ctx fm none s = .ok { s with pos := sp.last + 1 } (Grammar.relStmt s.refPos t) ∧
    t.info.range = ⟨s.pos, sp.last + 1⟩ ∧ ParseConform.At ctx { s with pos := sp.last + 1 } rest :=
  let ⟨a, _, _, b, c⟩ := (ParseConform.sconf_all ctx fs).stmt ts t sp rest hs fm s hat hfm
  ⟨a, b, c⟩

/-- **The syntax tree is the derivation the grammar mandates.**  For every token sequence whose
    last token is not a comment (every output of the lexer ends with `Eof`): whenever the grammar
    specification (`Spec/Grammar.lean`: a plain recursive-descent recogniser over the comment-free
    tokens, ranges = own tokens plus the comment run in front of the first one) derives the program
    `p`, `parser::parse` of the model returns exactly `p` — every declaration, statement and
    expression node, every range and `Reference` offset, the doc comments — and attaches no
    diagnostic anywhere.  No bound on the size of the program or on the nesting depth. -/
theorem parse_conforms (toks : List Token) (p : Program) (h : Grammar.parse toks = some p)
    (hend : ParseConform.EndsWithToken toks.toArray) : Parse.parse toks = .ok p :=
  ParseConform.parse_conforms toks p h hend

theorem at_start (ctx : Parse.Ctx) : ParseConform.At ctx { pos := 0 } (ParseConform.tsFrom ctx.toks 0) :=
  ⟨Or.inl rfl, Nat.le_refl _, rfl⟩

/-- Non-vacuity: the specification derives `1 + // c ⏎ 2 * x` from its seven tokens (comment included). -/
def exampleToks : List Token :=
  [⟨.Int (.Int 1), ⟨0, 1⟩, []⟩, ⟨.Plus, ⟨1, 2⟩, []⟩, ⟨.Comment "c".toList, ⟨2, 5⟩, []⟩, ⟨.Int (.Int 2), ⟨5, 6⟩, []⟩,
   ⟨.Times, ⟨6, 7⟩, []⟩, ⟨.Ident "x".toList, ⟨7, 8⟩, []⟩, ⟨.Eof, ⟨8, 8⟩, []⟩]

example : (Grammar.expr ⟨exampleToks.toArray⟩ 20 (ParseConform.tsFrom exampleToks.toArray 0)).isSome = true := by
  decide +kernel

/-- Non-vacuity of `parse_conforms`: the specification derives `// doc ⏎ proc main() {var i:int;i:=1;}`
    (17 tokens, doc comment included), and its last token is `Eof`. -/
def exampleProgram : List Token :=
  [⟨.Comment "doc".toList, ⟨0, 6⟩, []⟩, ⟨.Proc, ⟨6, 10⟩, []⟩, ⟨.Ident "main".toList, ⟨11, 15⟩, []⟩, ⟨.LParen, ⟨15, 16⟩, []⟩,
   ⟨.RParen, ⟨16, 17⟩, []⟩, ⟨.LCurly, ⟨18, 19⟩, []⟩, ⟨.Var, ⟨19, 22⟩, []⟩, ⟨.Ident "i".toList, ⟨23, 24⟩, []⟩, ⟨.Colon, ⟨24, 25⟩, []⟩,
   ⟨.Ident "int".toList, ⟨25, 28⟩, []⟩, ⟨.Semic, ⟨28, 29⟩, []⟩, ⟨.Ident "i".toList, ⟨29, 30⟩, []⟩, ⟨.Assign, ⟨30, 32⟩, []⟩,
   ⟨.Int (.Int 1), ⟨32, 33⟩, []⟩, ⟨.Semic, ⟨33, 34⟩, []⟩, ⟨.RCurly, ⟨34, 35⟩, []⟩, ⟨.Eof, ⟨35, 35⟩, []⟩]

example : (Grammar.parse exampleProgram).isSome = true := by decide +kernel
example : ParseConform.EndsWithToken exampleProgram.toArray := ⟨_, rfl, by decide⟩

end Spl.C04
