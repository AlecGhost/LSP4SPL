/-
  C05 — A syntax error stays contained in the declaration it occurs in.  Property theorems only.
-/
import SplVerif.Lemmas.ParserTables
import SplVerif.Lemmas.Resync
import SplVerif.Lemmas.Contain
import SplVerif.Lemmas.Prefix
import SplVerif.Lemmas.Total
import SplVerif.Lemmas.Shift
import SplVerif.Lemmas.FreshEnd
import SplVerif.Lemmas.ParseClean

namespace Spl.C05

/-- Table obligation over the regenerated `look_ahead_parser!` sets: every synchronisation set
    (global_dec, stmt, var_dec, param_dec, arg) accepts `proc`, `type` and `Eof`; hence every
    `ignore_until` recovery stops at the next declaration keyword at the latest. -/
theorem sync_sets_ok : SyncSetsOK = true := Total.sync_sets_ok

/-- The synchronisation sets are nested the way the grammar nests. -/
theorem sync_sets_nested : SyncSetsNested = true := by decide

/-- **Error recovery resynchronises at the next procedure or type declaration.**  Whenever the
    recovery of a damaged global declaration (`ignore_until(look_ahead::global_dec)`) finishes, it
    stands exactly where the next non-comment token is `proc`, `type` or the end of the file, and it
    has skipped no position from which such a token was the next one — whatever the tokens are and
    wherever the damage is: the keyword and the doc comments of the following declaration are never
    swallowed by this recovery. -/
theorem global_resync (ctx : Parse.Ctx) (fuel : Nat) (s s' : Parse.St) (start : Nat) (skipped : List Token)
    (h : Parse.ignoreUntil0 ctx (Parse.peek (Parse.la ctx .global_dec)) fuel start s = .ok s' skipped) :
    s.pos ≤ s'.pos ∧
    (∃ i t, ParseConform.Next ctx.toks s'.pos i ∧ ctx.toks[i]? = some t ∧ ParseConform.isSync t.ty.kind = true) ∧
    (∀ q, s.pos ≤ q → q < s'.pos → ∀ i t, ParseConform.Next ctx.toks q i → ctx.toks[i]? = some t →
      ParseConform.isSync t.ty.kind = false) :=
  ParseConform.global_resync ctx fuel s s' start skipped h

open Spl.ParseConform in
/-- **Declarations in front of the damage keep their sub-trees verbatim.**  If the non-comment tokens
    of a token sequence start with declarations `ds` that the grammar specification derives
    (`DeclsPrefix`: type and procedure declarations one behind the other) and go on with `rest` —
    a damaged declaration, garbage, further declarations, anything — then every program the parser
    returns for the sequence starts with exactly these declarations: the sub-trees with the ranges,
    `Reference` offsets and doc comments the grammar mandates and no diagnostic in them.  What
    follows cannot reach back into them. -/
theorem prefix_verbatim (toks : List Token) (ds : List (Ref GlobalDecl)) (rest : Grammar.Toks)
    (h : DeclsPrefix ⟨toks.toArray⟩ (tsFrom toks.toArray 0) ds rest) (prog : Program)
    (hp : Parse.parse toks = .ok prog) : ∃ more, prog.decls = ds.map Grammar.relDecl ++ more :=
  parse_prefix toks ds rest h prog hp

open Spl.ParseConform in
/-- **Behind the damage the loop continues as the grammar mandates.**  Wherever the declaration loop
    stands directly behind a token (after `global_resync`: in front of the doc comments of the next
    declaration): if the remaining tokens are declarations the grammar derives, followed by anything,
    the loop returns exactly these declarations — each with the sub-tree of the undamaged program
    relative to its own start — and goes on behind them like a loop started there. -/
theorem loop_resumes (ctx : Parse.Ctx) (ts rest : Grammar.Toks) (ds : List (Ref GlobalDecl))
    (h : DeclsPrefix ⟨ctx.toks⟩ ts ds rest) (s : Parse.St) (f : Nat) (hat : At ctx s ts) (href : s.refPos = 0) :
    ∃ e, s.pos ≤ e ∧ At ctx { s with pos := e } rest ∧ ds.length + rest.length ≤ ts.length ∧
      Parse.many0 (Parse.refParse (Parse.parseGlobalDecl ctx) none) (f + ds.length) s =
        prependRes (ds.map Grammar.relDecl)
          (Parse.many0 (Parse.refParse (Parse.parseGlobalDecl ctx) none) f { s with pos := e }) :=
  prefix_conf ctx h s f hat href

open Spl.ParseConform in
/-- the declarations of every derivation of the grammar are such a prefix (followed by the end of file) -/
theorem derivation_is_prefix (g : Grammar.GCtx) (fd : Nat) (ts : Grammar.Toks) (ds : List (Ref GlobalDecl))
    (last : Option Nat) (h : Grammar.decls g fd ts = some (ds, last)) :
    ∃ ieof, DeclsPrefix g ts ds [⟨ieof, .Eof⟩] :=
  decls_is_prefix g fd ts ds last h

/-- the tokens of `proc a() {} *` -/
def exampleToks : List Token :=
  [⟨.Proc, ⟨0, 4⟩, []⟩, ⟨.Ident ['a'], ⟨5, 6⟩, []⟩, ⟨.LParen, ⟨6, 7⟩, []⟩, ⟨.RParen, ⟨7, 8⟩, []⟩,
   ⟨.LCurly, ⟨9, 10⟩, []⟩, ⟨.RCurly, ⟨10, 11⟩, []⟩, ⟨.Times, ⟨12, 13⟩, []⟩, ⟨.Eof, ⟨13, 13⟩, []⟩]

example : (match lex "proc a() {} *".toList with | .ok ts => ts == exampleToks | .error _ => false) = true := by
  decide +kernel

open Spl.ParseConform in
/-- Non-vacuity of `prefix_verbatim`: a procedure declaration followed by garbage. -/
example : ∃ ds, ds.length = 1 ∧
    DeclsPrefix ⟨exampleToks.toArray⟩ (tsFrom exampleToks.toArray 0) ds [⟨6, .Times⟩, ⟨7, .Eof⟩] := by
  exact ⟨_, rfl, DeclsPrefix.proc 0 1 ['a'] 2 .LParen _ [] 3 .RParen 4 .LCurly _ [] _ .nil 5 .RCurly _ _ [] rfl
    (Or.inl ⟨3, _, rfl, rfl, rfl⟩) rfl rfl rfl rfl rfl (DeclsPrefix.nil _)⟩

/-- **Damage never swallows a declaration keyword.**  For EVERY token sequence — however broken — and every
    program `parser::parse` returns for it: each `proc` and each `type` keyword token of the sequence is the first
    token (behind documentation comments only) of one of the global declarations of that program, at that
    declaration's `Reference` offset.  Whatever is wrong in front of a keyword — unbalanced brackets, a missing
    `}`, half a statement, garbage — the declaration in which the damage lies ends in front of the documentation
    comments of the next `proc` / `type`, and a new declaration node starts there: no parser other than the two
    declaration parsers ever consumes one of these keywords, and every recovery stops at them
    (`Lemmas/Total`: `Clean`, `peekla_atKw`; `Lemmas/ParserInv`: `globalDecl_sat`, `loop_keywords_sat`,
    `program_keywords`). -/
theorem keywords_start_declarations (toks : List Token) (prog : Program) (hp : Parse.parse toks = .ok prog)
    (q : Nat) (t : Token) (ht : toks[q]? = some t) (hk : t.kind = Kind.Proc ∨ t.kind = Kind.Type) :
    ∃ d ∈ prog.decls, d.offset ≤ q ∧
      ∀ i t', d.offset ≤ i → i < q → toks[i]? = some t' → t'.kind = Kind.Comment := by
  obtain ⟨s', hr⟩ := ParseConform.parse_ok_iff.mp hp
  obtain ⟨d, hd, h1, h2⟩ := Total.program_keywords _ s' prog hr q t (by simpa using ht) hk
  exact ⟨d, hd, h1, fun i t' hi1 hi2 hti => h2 i t' hi1 hi2 (by simpa using hti)⟩

/-- Non-vacuity: a broken first procedure (no closing brace, half an assignment) in front of a documented type
    declaration and a second procedure: the parse succeeds and has three declarations, at offsets 0, 11 and 17
    — the token indices of `proc`, of the comment in front of `type`, and of the second `proc`. -/
example :
    (match lex "proc a() { x := (1 + ;\n// doc\ntype t = int;\nproc main() {}".toList with
     | .ok toks =>
       (match Parse.parse toks with
        | .ok p => p.decls.map (·.offset) == [0, 11, 17]
        | .error _ => false)
     | .error _ => false) = true := by
  -- the literal's characters instead of its bytes (see the note at `C03.specVerdict_ofList`); rewriting in the
  -- goal itself would make the kernel compare two `match`es, by evaluating both
  generalize h : String.toList _ = l
  rw [String.toList_ofList] at h
  subst h
  decide +kernel

open Spl.ParseConform in
/-- **Declarations behind the damage are parsed exactly as before.**  `A` is the undamaged token sequence, for
    which the grammar specification derives `progA` (absolute ranges; `Grammar.relDecl` turns a declaration into the
    implementation's convention, and by `C04.parse_conforms` that is what `parser::parse` returns for `A`).  Split
    its declarations anywhere: `pre ++ post`.  Then `post` starts at a position `e` directly behind a token (the
    start of the doc comments of its first declaration), and in EVERY token sequence that goes on, from some position
    directly behind a token, with the same tokens as `A` from `e` on — whatever stands in front: the damaged
    declaration, garbage, fewer or more tokens — the declaration loop of the parser, when it stands there, returns
    exactly the declarations `post` of the undamaged program: identical sub-trees (every node, range, inner
    `Reference` offset, doc comment, no diagnostic), each at its `Reference` offset moved by the difference of the
    two positions; and it goes on at the end of the file.  (`Lemmas/Shift`: the grammar specification does not
    depend on where in the sequence a run of declarations stands.  That the loop does come to stand exactly there
    is `declarations_behind_damage_as_before` below.) -/
theorem following_declarations_as_before (A : List Token) (progA : Program) (hA : Grammar.parseAbs A = some progA)
    (pre post : List (Ref GlobalDecl)) (hsp : progA.decls = pre ++ post) :
    ∃ e, Fresh A.toArray e ∧ (∀ d rest, post = d :: rest → d.val.info.range.lo = e) ∧
      ∀ (ctx : Parse.Ctx) (s : Parse.St) (f : Nat), ctx.toks.toList.drop s.pos = A.drop e →
        Fresh ctx.toks s.pos → s.refPos = 0 →
        ∃ endB ieof, s.pos ≤ endB ∧ At ctx { s with pos := endB } [⟨ieof, .Eof⟩] ∧
          Parse.many0 (Parse.refParse (Parse.parseGlobalDecl ctx) none) (f + post.length) s =
            prependRes ((post.map Grammar.relDecl).map (fun r => ⟨r.val, r.offset - e + s.pos⟩))
              (Parse.many0 (Parse.refParse (Parse.parseGlobalDecl ctx) none) f { s with pos := endB }) := by
  obtain ⟨fd, e, last, hfe, hd, hhead⟩ := Contain.parseAbs_cut hA hsp
  exact ⟨e, hfe, fun d rest hp => (hhead d rest hp).1, fun ctx s f hsuf hfs href =>
    Shift.tail_as_before A.toArray e fd post last hd hfe ctx s hsuf hfs href f⟩

/- Non-vacuity of `following_declarations_as_before`: its hypothesis `Grammar.parseAbs A = some progA` is what
   SPECPARSE / PROPCONTAIN establish by evaluation for every generated valid program on every run; the hypotheses
   about the damaged sequence are instantiated by the three damage operations of PROPCONTAIN. -/

section
open Spl Spl.Parse Spl.ParseConform Spl.FreshEnd Spl.Contain


/-- **A syntax error stays in its declaration: what follows is parsed exactly as before.**  `A` is the undamaged
    token sequence with the derivation `progA` of the grammar specification (what `parser::parse` returns for it, by
    `C04.parse_conforms`); `d0 :: post` are its declarations from some declaration `d0` on.  `B` is ANY token sequence
    that, from a position `eB` directly behind a token, goes on exactly like `A` from the start of `d0` (the doc
    comments in front of its keyword) — in front of `eB` stands whatever the damage made of the earlier declarations.
    Then every program `parser::parse` returns for `B` ENDS with exactly the declarations `d0 :: post` of the
    undamaged program (nothing behind them: the loop stops at the end-of-file token, `loop_at_eof`): identical
    sub-trees — every node, range, inner `Reference` offset and doc comment, no diagnostic in them — each at its
    `Reference` offset moved by the difference of the two positions.
    (`keywords_start_declarations` finds the declaration that starts at the keyword of `d0`; `Lemmas/FreshEnd` shows
    that the loop's iterations start directly behind a token, so that declaration starts at `eB` and not inside the
    comment run; `Lemmas/Shift` shows that the loop returns the undamaged sub-trees from there.) -/
theorem declarations_behind_damage_as_before (A B : List Token) (progA progB : Program)
    (hA : Grammar.parseAbs A = some progA) (hB : Parse.parse B = .ok progB)
    (pre post : List (Ref GlobalDecl)) (d0 : Ref GlobalDecl) (hsp : progA.decls = pre ++ d0 :: post)
    (eB : Nat) (hsuf : B.drop eB = A.drop d0.val.info.range.lo) (hfB : Fresh B.toArray eB) :
    ∃ preB, progB.decls = preB ++
      ((d0 :: post).map Grammar.relDecl).map (fun r => ⟨r.val, r.offset - d0.val.info.range.lo + eB⟩) := by
  obtain ⟨fd, e, last, hfe, hd, hhead⟩ := parseAbs_cut hA hsp
  obtain ⟨he, qA, tq, hle, hl, htq, hkq⟩ := hhead d0 post rfl
  rw [he] at hsuf ⊢
  -- in `B` the keyword of `d0` is token `qA - e + eB`, and the comment run in front of it starts at `eB`
  have hqB : B[qA - e + eB]? = some tq := by
    rw [Nat.add_comm, get_of_drop hsuf, Nat.add_sub_cancel' hle, htq]
  have hlB := lead_suffix hsuf hfe hfB (qA - e)
  rw [Nat.sub_add_cancel hle, hl] at hlB
  obtain ⟨d, hdm, hoff, hcd⟩ := keywords_start_declarations B progB hB _ tq hqB hkq
  obtain ⟨i, f, s, s', hpos, href, hloop⟩ := iteration_at hB hdm hqB hkq hoff hcd
  obtain rfl : s.pos = eB := by omega
  exact ⟨progB.decls.take i, by rw [← tail_exact hd hfe hsuf hfB href hloop, List.take_append_drop]⟩

/-- **The syntax diagnostics of the damaged program lie outside the declarations behind the damage.**  In the setting of
    `declarations_behind_damage_as_before`: the copies of the undamaged declarations carry no diagnostic, so every
    diagnostic of the parse is attached to the program node or to a declaration node in front of them (the damaged
    declaration and what the recovery made of it). -/
theorem diagnostics_outside_undamaged_declarations (A B : List Token) (progA progB : Program)
    (hA : Grammar.parseAbs A = some progA) (hB : Parse.parse B = .ok progB)
    (pre post : List (Ref GlobalDecl)) (d0 : Ref GlobalDecl) (hsp : progA.decls = pre ++ d0 :: post)
    (eB : Nat) (hsuf : B.drop eB = A.drop d0.val.info.range.lo) (hfB : Fresh B.toArray eB) :
    ∃ preB, progB.decls = preB ++
      ((d0 :: post).map Grammar.relDecl).map (fun r => ⟨r.val, r.offset - d0.val.info.range.lo + eB⟩) ∧
      progB.errors = progB.info.errors ++ preB.flatMap (refErrors GlobalDecl.errors) := by
  obtain ⟨preB, hd⟩ := declarations_behind_damage_as_before A B progA progB hA hB pre post d0 hsp eB hsuf hfB
  obtain ⟨last, hds⟩ := parseAbs_decls hA
  refine ⟨preB, hd, ?_⟩
  rw [Program.errors, hd, List.flatMap_append]
  refine congrArg (_ ++ ·) (List.append_right_eq_self.2 (List.flatMap_eq_nil_iff.2 fun r hr => ?_))
  -- a copy has the value of a declaration of the undamaged derivation, which carries no diagnostic
  obtain ⟨_, hr1, rfl⟩ := List.mem_map.mp hr
  obtain ⟨x, hx, rfl⟩ := List.mem_map.mp hr1
  have hc := relDecl_errs x (decls_errs _ _ _ _ _ hds x (hsp ▸ List.mem_append_right _ hx))
  exact (shiftErrs_eq_nil _ _).2 ((shiftErrs_eq_nil _ _).1 hc)


/-- **A syntax error stays contained in the declaration it occurs in** — both sides at once.  `B` is any token
    sequence that starts with declarations `front` the grammar derives (`DeclsPrefix`), each starting in front of
    position `eB`, and that from `eB` on (directly behind a token) goes on exactly like the undamaged sequence `A` from
    the start of its declaration `d0`.  Then every program `parser::parse` returns for `B` is
    `front` (verbatim) `++ mid ++` (the declarations `d0 :: post` of the undamaged program, offsets moved): whatever
    the damaged stretch in between is parsed into, the declarations on both sides are parsed exactly as without it. -/
theorem damage_is_contained (A B : List Token) (progA progB : Program)
    (hA : Grammar.parseAbs A = some progA) (hB : Parse.parse B = .ok progB)
    (pre post : List (Ref GlobalDecl)) (d0 : Ref GlobalDecl) (hsp : progA.decls = pre ++ d0 :: post)
    (eB : Nat) (hsuf : B.drop eB = A.drop d0.val.info.range.lo) (hfB : Fresh B.toArray eB)
    (front : List (Ref GlobalDecl)) (rest : Grammar.Toks)
    (hfront : DeclsPrefix ⟨B.toArray⟩ (tsFrom B.toArray 0) front rest)
    (hbefore : ∀ d ∈ front, d.val.info.range.lo < eB) :
    ∃ mid, progB.decls = front.map Grammar.relDecl ++ mid ++
      ((d0 :: post).map Grammar.relDecl).map (fun r => ⟨r.val, r.offset - d0.val.info.range.lo + eB⟩) := by
  obtain ⟨preB, h1⟩ := declarations_behind_damage_as_before A B progA progB hA hB pre post d0 hsp eB hsuf hfB
  obtain ⟨more, h2⟩ := prefix_verbatim B front rest hfront progB hB
  rcases List.append_eq_append_iff.mp (h2.symm.trans h1) with ⟨mid, hmid, -⟩ | ⟨c, hc, hcop⟩
  · exact ⟨mid, by rw [h1, hmid]⟩
  · -- `front` cannot reach into the copies: the first copy starts at `eB`
    cases c with
    | nil => exact ⟨[], by rw [h1, hc, List.append_nil, List.append_nil]⟩
    | cons x c =>
      obtain ⟨y, hy, rfl⟩ := List.mem_map.mp (hc ▸ List.mem_append_right preB List.mem_cons_self)
      have hoff := congrArg Ref.offset (List.cons.inj hcop).1
      simp only [relDecl_offset] at hoff
      have := hbefore y hy
      omega


/-- **The property's own quantifier: a stretch of tokens of one declaration is deleted, inserted or replaced.**
    `A = X ++ M0 ++ Y` is the undamaged sequence, `B = X ++ M ++ Y` the damaged one (`M0 = [t]`, `M = []`: a token
    deleted; `M0 = []`, `M = [t]`: inserted; `M0 = [t]`, `M = [t']`: replaced; any other stretch as well), and the
    damage ends in front of the last token in front of `d0` (at least one undamaged token stands between the damage
    and the documentation comments of `d0`).  Then every parse of `B` ends with exactly the declarations of the
    undamaged program from `d0` on, their offsets moved by the difference of the lengths. -/
theorem stretch_damage_contained (X M0 M Y : List Token) (progA progB : Program)
    (hA : Grammar.parseAbs (X ++ M0 ++ Y) = some progA) (hB : Parse.parse (X ++ M ++ Y) = .ok progB)
    (pre post : List (Ref GlobalDecl)) (d0 : Ref GlobalDecl) (hsp : progA.decls = pre ++ d0 :: post)
    (hlt : X.length + M0.length < d0.val.info.range.lo) :
    ∃ preB, progB.decls = preB ++ ((d0 :: post).map Grammar.relDecl).map
      (fun r => ⟨r.val, r.offset - d0.val.info.range.lo + (d0.val.info.range.lo - M0.length + M.length)⟩) := by
  obtain ⟨e, hfe, he, -⟩ := following_declarations_as_before (X ++ M0 ++ Y) progA hA pre (d0 :: post) hsp
  cases he d0 post rfl
  obtain ⟨hsuf, hfB⟩ := stretch_suffix X M0 M Y hlt
  exact declarations_behind_damage_as_before _ _ progA progB hA hB pre post d0 hsp _ hsuf (hfB hfe)

end

end Spl.C05
