/-
  C02 — The server never crashes or goes silent.  Property theorems only.
-/
import SplVerif.Props.C06
import SplVerif.Props.C18
import SplVerif.Model.Table
import SplVerif.Props.C07
import SplVerif.Lemmas.Total
import SplVerif.Lemmas.IdOK

namespace Spl.C02

/-- Lexing never panics, whatever the text (from C06). -/
theorem lex_never_panics (s : List Char) : ∃ ts, lex s = .ok ts := C06.lex_total s

/-- Incremental lexing never panics either: for every old text, every change on character
    boundaries and every replacement (in particular `shift_token` never underflows and the slice at
    the re-lex start is always on a character boundary), from C07. -/
theorem lex_update_never_panics (pre mid ins post : List Char) (old : List Token)
    (hold : lex (pre ++ mid ++ post) = .ok old) :
    ∃ new ch, lexUpdate (pre ++ ins ++ post) old (utf8Len pre) (utf8Len pre + utf8Len mid) (utf8Len ins) =
      .ok (new, ch) := by
  obtain ⟨new, ch, h, _⟩ := C07.update_eq_lex pre mid ins post old hold
  exact ⟨new, ch, h⟩

/-- Every request that reaches a live server is answered exactly once (from C18's machine). -/
theorem one_response (p : Rpc.Phase) (id : Int) (m : String) :
    (∀ c, p ≠ .exited c) → (Rpc.step p (.req id m)).2.length = 1 := by
  intro h
  have := C18.one_response_per_request p (.req id m)
  cases p with
  | exited c => exact absurd rfl (h c)
  | _ => exact this

/-- Token-range to text-range conversion never panics for ranges inside the token vector. -/
theorem tokenRange_ok (toks : Array Token) (r : Range) (_h1 : r.lo ≤ r.hi) (h2 : r.hi < toks.size) :
    ∃ t, tokenRangeToText toks r = .ok t := by
  unfold tokenRangeToText
  by_cases he : r.hi ≤ r.lo
  · rw [if_pos he, Array.getElem?_eq_getElem h2]
    exact ⟨_, rfl⟩
  · rw [if_neg he, if_neg (Nat.not_lt.2 (Nat.le_of_lt h2)), Array.getElem?_eq_getElem (show r.lo < toks.size by omega),
      Array.getElem?_eq_getElem (show r.hi - 1 < toks.size by omega)]
    exact ⟨_, rfl⟩

/-- **The parser never panics, for any token sequence whatsoever**: `parser::parse` either returns a
    program or stops with the one `expect("Parser cannot fail")` of `parser::parse`.  So no parser of the
    model runs out of fuel, no slice leaves the token array, no range subtraction underflows and no
    operator conversion fails (`Total.program_np`). -/
theorem parse_never_panics (toks : List Token) :
    (∃ p, Parse.parse toks = .ok p) ∨ Parse.parse toks = .error ⟨"expect:Parser cannot fail"⟩ := by
  unfold Parse.parse
  dsimp only
  cases hr : Parse.parseProgram { toks := toks.toArray, change := ⟨0, 0, toks.length⟩ } none { pos := 0 } with
  | ok s p => exact Or.inl ⟨p, rfl⟩
  | err k s => exact Or.inr rfl
  | panic e => exact absurd hr (Total.program_np _ e)

theorem kind_eof (ty : TokenType) (h : ty.kind = Kind.Eof) : ty = .Eof := by
  cases ty <;> first | rfl | cases h

/-- no token the lexer produces in front of the final one is an `Eof` -/
theorem lexL_not_eof : ∀ (s : List Char) (off : Nat), ∀ t ∈ lexL s off, t.kind ≠ Kind.Eof := by
  intro s
  induction s using lexL_induct with
  | hnil => intro off t ht; simp at ht
  | hsp c cs hc ih =>
    intro off t ht
    rw [lexL_space hc] at ht
    exact ih _ t ht
  | htok c cs o hc ho ih =>
    intro off t ht
    rw [lexL_token hc ho] at ht
    simp only [List.mem_cons] at ht
    rcases ht with rfl | ht
    · intro hk
      have := (lexOne_ok ho).notEof
      exact this (kind_eof _ (by simpa [Token.kind, mkToken] using hk))
    · exact ih _ t ht

/-- **Parsing never fails**: for every token sequence that ends with its only `Eof` token,
    `parser::parse` of the model returns a program — no panic, and not the
    `expect("Parser cannot fail")` of `parser::parse` either: the declaration loop ends exactly in front
    of the final `Eof` (`Total.program_total`). -/
theorem parse_total (front : List Token) (e : Token) (he : e.kind = Kind.Eof)
    (hf : ∀ t ∈ front, t.kind ≠ Kind.Eof) : ∃ p, Parse.parse (front ++ [e]) = .ok p := by
  let ctx : Parse.Ctx := { toks := (front ++ [e]).toArray, change := ⟨0, 0, (front ++ [e]).length⟩ }
  have hE : Total.EofLast ctx := by
    refine ⟨⟨e, ?_, he⟩, fun i t ht hk => ?_⟩
    · show (front ++ [e]).toArray[(front ++ [e]).toArray.size - 1]? = some e
      rw [List.getElem?_toArray, List.size_toArray, List.length_append, List.length_singleton, Nat.add_sub_cancel,
        List.getElem?_concat_length]
    · have ht : (front ++ [e])[i]? = some t := List.getElem?_toArray ▸ ht
      show i + 1 = (front ++ [e]).toArray.size
      rw [List.size_toArray, List.length_append, List.length_singleton]
      by_cases hi : i < front.length
      · rw [List.getElem?_append_left hi] at ht
        exact absurd hk (hf t (List.mem_of_getElem? ht))
      · have hlt := (List.getElem?_eq_some_iff.mp ht).1
        rw [List.length_append, List.length_singleton] at hlt
        omega
  obtain ⟨s', p, h⟩ := Total.program_total ctx hE
  have hparse : Parse.parse (front ++ [e]) = match Parse.parseProgram ctx none { pos := 0 } with
      | .ok _ p => .ok p
      | .err _ _ => .error ⟨"expect:Parser cannot fail"⟩
      | .panic e => .error e := rfl
  rw [hparse, h]
  exact ⟨p, rfl⟩

/-- **Lexing and parsing any text succeeds**: the front half of `AnalyzedSource::new` (tokens, tree
    with its syntax diagnostics) is total — for every text whatsoever. -/
theorem lex_parse_total (text : List Char) : ∃ toks p, lex text = .ok toks ∧ Parse.parse toks = .ok p := by
  have hl : lex text = .ok (lexL text 0 ++ [eofToken (utf8Len text)]) := by
    simp only [lex, lexGo_eq_lexL]
  obtain ⟨p, hp⟩ := parse_total (lexL text 0) (eofToken (utf8Len text)) (by simp [eofToken, Token.kind, TokenType.kind])
    (lexL_not_eof text 0)
  exact ⟨_, p, hl, hp⟩

/-- **`AnalyzedSource::new` never panics**: for every text whatsoever, lexing, parsing, building the
    symbol table and the semantic pass all return — the document (tokens, tree, table, with every
    diagnostic attached) always exists.  Every identifier the parser produces covers a token
    (`IdOK.parse_idProg`), and that is all the table and semantic passes need
    (`AnalyzeTotal.build_analyze_total`). -/
theorem new_total (text : List Char) : ∃ d, AnalyzedSource.new text = .ok d := by
  obtain ⟨toks, p, hl, hp⟩ := lex_parse_total text
  obtain ⟨p1, t, p2, hb, ha⟩ := AnalyzeTotal.build_analyze_total p (IdOK.parse_idProg toks p hp)
  refine ⟨{ text := text, tokens := toks, ast := p2, table := t }, ?_⟩
  unfold AnalyzedSource.new
  rw [hl]
  dsimp only
  rw [hp]
  dsimp only
  rw [hb]
  dsimp only
  rw [ha]

/-- non-vacuity / sanity: a text with two procedures, a type named like a builtin and a use of an
    undeclared name goes through every pass -/
example : (AnalyzedSource.new "type int = array [3] of bool; proc main() { var i: int; i[0] := x; q(i); } proc q(ref a: int) {}".toList).toOption.isSome = true := by
  -- the literal's characters instead of its bytes: see the note at `C03.specVerdict_ofList`
  generalize h : String.toList _ = l
  rw [String.toList_ofList] at h
  subst h
  decide +kernel

end Spl.C02
