/-
  C12 — Go-to declaration/definition/type definition/implementation hit the right name.
  Property theorems only.
-/
import SplVerif.Model.Features
import SplVerif.Lemmas.Cursor

namespace Spl.C12
open Spl.Feat

/-- **Non-identifiers yield no location, never an error.**  If the token under the cursor is
    not an identifier (or there is no token), every go-to handler answers `none`. -/
theorem goto_none_on_non_identifier (d : AnalyzedSource) (p : Pos) (c : Cursor)
    (hc : docCursor d p = .ok c) (hi : c.ident = none) :
    gotoDeclaration d p = .ok none ∧ gotoTypeDefinition d p = .ok none ∧
    gotoImplementation d p = .ok none := by
  simp [gotoDeclaration, gotoTypeDefinition, gotoImplementation, hc, hi]

/-- Outside every global declaration (no context) there is nothing to go to. -/
theorem goto_none_without_context (d : AnalyzedSource) (p : Pos) (c : Cursor)
    (hc : docCursor d p = .ok c) (hx : c.context = none) :
    gotoDeclaration d p = .ok none ∧ gotoTypeDefinition d p = .ok none ∧
    gotoImplementation d p = .ok none := by
  simp only [gotoDeclaration, gotoTypeDefinition, gotoImplementation, hc, hx]
  cases c.ident <;> simp

/-- Inside a type declaration, `int` has no declaration and no type definition. -/
theorem goto_int_in_type_context (d : AnalyzedSource) (p : Pos) (c : Cursor) (t : TypeEntry) (r : Range)
    (hc : docCursor d p = .ok c) (hx : c.context = some (.type t))
    (hi : c.ident = some ⟨"int".toList, r⟩) :
    gotoDeclaration d p = .ok none ∧ gotoTypeDefinition d p = .ok none := by
  simp [gotoDeclaration, gotoTypeDefinition, hc, hx, hi]

/-- A located name is reported as the range of its identifier token (last token of the node's
    range), converted with `as_position`: the comments in front of it are not part of it. -/
theorem name_range_is_token_range (s : Slice) (r : Range) (t : Token)
    (hne : r.lo < r.hi) (ht : s.get? (r.hi - 1) = some t) : nameTextRange s r = .ok t.range := by
  unfold nameTextRange
  have : ¬ r.hi ≤ r.lo := by omega
  simp [this, ht]

/-- **A name declared locally (parameter or variable) is resolved to that local declaration**,
    whatever the global table contains under the same name (a procedure, a type, a predefined
    entity). -/
theorem local_shadows_global (l : LocalTable) (g : GlobalTable) (k : List Char) (e : LocalEntry)
    (h : tblLookup l k = some e) :
    lookupBoth (some l) g k = some (match e with
      | .variable v => .variable v
      | .parameter v => .parameter v) := by
  simp only [lookupBoth, Option.bind, h]
  cases e <;> rfl

/-- Outside a procedure (type declarations) only global names are visible. -/
theorem no_locals_outside_procedures (g : GlobalTable) (k : List Char) :
    lookupBoth none g k = (tblLookup g k).map Entry.ofGlobal := by
  simp only [lookupBoth, Option.bind]
  cases tblLookup g k with
  | none => rfl
  | some e => cases e <;> rfl

/-- A name with no local declaration is resolved in the global table, and only there. -/
theorem global_fallback (l : LocalTable) (g : GlobalTable) (k : List Char)
    (h : tblLookup l k = none) :
    lookupBoth (some l) g k = (tblLookup g k).map Entry.ofGlobal := by
  rw [← no_locals_outside_procedures]
  simp only [lookupBoth, Option.bind, h]

/-- The token the type-position rule looks at: the last non-comment token that ends at or before
    the identifier. -/
def prevToken (d : AnalyzedSource) (ident : Ident) : Option Token :=
  ((d.tokens.takeWhile (fun t => t.range.hi ≤ ident.range.lo)).filter (fun t => t.kind != .Comment)).getLast?

/-- **Type positions are global**: for an identifier directly after `:` or `of` (comments in
    between do not matter) that is not the procedure's own name, `lookup_ident` answers from the
    global table alone — a parameter or variable of the same name does not capture it. -/
theorem type_position_is_global (d : AnalyzedSource) (pe : ProcedureEntry) (ident : Ident) (t : Token)
    (hprev : prevToken d ident = some t) (hk : (t.kind == .Colon || t.kind == .Of) = true) :
    lookupIdent d pe ident = .ok ((tblLookup d.table ident.value).map Entry.ofGlobal) := by
  unfold prevToken at hprev
  simp only [lookupIdent, hprev, hk, if_true]
  -- both outcomes of the own-name test answer from the global table here, and the test never fails
  split
  · rename_i heq
    repeat' split at heq
    all_goals cases heq
  · rfl
  · rfl

/-- The first declaration of a name in a table wins (a table never holds two entries for one
    name: `enter` refuses duplicates). -/
theorem enter_refuses_duplicate {α} (t : List (List Char × α)) (k : List Char) (v w : α)
    (h : tblLookup t k = some v) : tblEnter t k w = none :=
  if_pos ((List.isSome_find?.symm.trans Option.isSome_map.symm).trans (congrArg Option.isSome h))

/-- **A reported identifier range, sent back, addresses that identifier** (C08's last sentence, and the entry point
    of go-to, references, rename, hover and signature help).  For every document whose token vector is the
    tokenisation of its text (`AnalyzedSource::new`, and by C07 every update, guarantee this) and every identifier
    token `t` of it: a request at the position the server reports for the start of `t` resolves to exactly that
    identifier with exactly its range — multi-byte and astral characters, CRLF and lone CR in front of it included. -/
theorem reported_start_addresses_identifier (d : AnalyzedSource) (hinv : lex d.text = .ok d.tokens) (t : Token)
    (ht : t ∈ lexL d.text 0) (name : List Char) (hty : t.ty = .Ident name) (c : Cursor)
    (hc : docCursor d (asPosition t.range.lo d.text) = .ok c) : c.ident = some ⟨name, t.range⟩ := by
  simp only [docCursor] at hc
  split at hc <;> cases hc
  simp only [Cursor.ident, (CursorLemmas.start_addresses_token d.text d.tokens hinv t ht).2, hty]

/-- … and so does every position inside the identifier: any byte index of its range finds it. -/
theorem index_inside_addresses_identifier (d : AnalyzedSource) (hinv : lex d.text = .ok d.tokens) (t : Token)
    (ht : t ∈ lexL d.text 0) (name : List Char) (hty : t.ty = .Ident name) (c : Cursor)
    (hdoc : c.doc = d) (h1 : t.range.lo ≤ c.index) (h2 : c.index < t.range.hi) : c.ident = some ⟨name, t.range⟩ := by
  have := CursorLemmas.index_finds_token d.text d.tokens hinv t ht c.index h1 h2
  simp only [Cursor.ident, hdoc, this, hty]

end Spl.C12
