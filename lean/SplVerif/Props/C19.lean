/-
  C19 — Message framing is independent of how the byte stream is chunked.
  Property theorems only.
-/
import SplVerif.Lemmas.Codec
import SplVerif.Lemmas.CodecEnv

namespace Spl.C19
open Spl.Codec

/-- **Chunking independence.**  For every header parser and body parser whose verdicts are
    stable under extension of the buffer (`EnvOK`: a complete header block stays the same
    complete block, an error stays an error), the `FramedRead` loop around `LSCodec::decode`
    yields the same message sequence and the same terminal status however the byte stream is
    cut into reads. -/
theorem feed_chunk_independent {Msg} (env : Env Msg) (hok : EnvOK env) (chunks : List Bytes) :
    feed env chunks [] = feed env [chunks.flatten] [] := by
  rw [feed_eq_finish env hok, feed_eq_finish env hok, List.flatten_cons, List.flatten_nil,
    List.append_nil]

/-- Decoding is monotone in the buffer: once `decode` has produced a frame or an error, more
    bytes do not change its verdict. -/
theorem decode_stable {Msg} (env : Env Msg) (hok : EnvOK env) (b x : Bytes)
    (h : ∀ (_ : Unit), decode env b ≠ .needMore) : decode env (b ++ x) = decode env b :=
  decode_append env hok b x (h ())

/-- `EnvOK` is not an assumption for the header-parser model that the correspondence run ties to
    `httparse::parse_headers` (`DEC` op: same verdicts on every generated header variant): once
    its verdict is `complete` or `error`, later bytes never change it. -/
theorem env_ok {Msg} (parseBody : Bytes → Option Msg) :
    EnvOK ({ parseHeaders := parseHeadersModel, parseBody := parseBody } : Env Msg) :=
  ⟨fun b x _ _ h => parseHeadersModel_append b x h nofun,
    fun b x h => parseHeadersModel_append b x h nofun⟩

/-- **C19 for the modelled codec, without hypotheses**: for every body parser, every byte
    stream and every way of cutting it into reads (any number of chunks of any sizes, including
    empty ones and cuts inside a header, inside a multi-byte character or inside the body), the
    decoded message sequence and the terminal status are those of a single read of the whole
    stream. -/
theorem chunk_independent {Msg} (parseBody : Bytes → Option Msg) (chunks : List Bytes) :
    feed ({ parseHeaders := parseHeadersModel, parseBody := parseBody } : Env Msg) chunks [] =
      feed ({ parseHeaders := parseHeadersModel, parseBody := parseBody } : Env Msg) [chunks.flatten] [] :=
  feed_chunk_independent _ (env_ok parseBody) chunks

/-- Every emitted frame announces the byte length of its body. -/
theorem encode_length (body : Bytes) :
    encode body = "Content-Length: ".toUTF8.toList ++ (toString body.length).toUTF8.toList
      ++ [13, 10, 13, 10] ++ body := rfl

end Spl.C19
