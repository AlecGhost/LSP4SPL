/-
  C18 — JSON-RPC/LSP lifecycle conformance and clean termination.
-/
import SplVerif.Lemmas.Rpc

namespace Spl.C18
open Spl Spl.Rpc

/-- Table obligation over the regenerated dispatch tables and error codes of `server.rs` /
    `error.rs` (phase-specific error codes, the `initialize`/`shutdown` arms, the set of
    feature methods, the `exit` arm). -/
theorem rpc_table_ok : RpcTableOK = true := by decide +kernel

/-- The specification states a phase stands for.  After `exit` only the status matters (the
    specification keeps its flags, the model forgets the phase). -/
def Sim : Phase → RpcSpec.St → Prop
  | .preInit, s => s = {}
  | .handshake, s => s = { initializeSeen := true }
  | .main, s => s = { initializeSeen := true, initializedSeen := true }
  | .shutdown, s => s = { initializeSeen := true, initializedSeen := true, shutdownSeen := true }
  | .exited c, s => s.exited = some c

theorem step_req {p : Phase} {s : RpcSpec.St} (h : Sim p s) (hx : s.exited = none)
    (id : Int) (m : String) :
    Sim (step p (.req id m)).1 (RpcSpec.respond s id m).1 ∧
      (step p (.req id m)).2 = [(RpcSpec.respond s id m).2] := by
  have t := table_facts rpc_table_ok
  cases p with
  | exited c => cases hx.symm.trans h
  | main =>
    cases h
    simp only [main_request rpc_table_ok, RpcSpec.respond]
    cases m == "initialize" <;> cases m == "shutdown" <;> cases RpcSpec.supported.contains m <;>
      exact ⟨rfl, rfl⟩
  | _ =>
    cases h
    simp only [step, RpcSpec.respond, t]
    cases m == "initialize" <;> exact ⟨rfl, rfl⟩

theorem step_note {p : Phase} {s : RpcSpec.St} (h : Sim p s) (hx : s.exited = none) (m : String) :
    Sim (step p (.note m)).1 (RpcSpec.onNote s m) ∧ (step p (.note m)).2 = [] := by
  have t := table_facts rpc_table_ok
  cases p with
  | exited c => cases hx.symm.trans h
  | handshake =>
    cases h
    simp only [step, RpcSpec.onNote, t, Bool.and_true]
    -- the model tests `initialized` first, the specification `exit`
    by_cases hm : m = "initialized"
    · subst hm
      exact ⟨rfl, rfl⟩
    · rw [beq_false_of_ne hm]
      cases m == "exit" <;> exact ⟨rfl, rfl⟩
  | main =>
    cases h
    simp only [main_note rpc_table_ok, RpcSpec.onNote]
    cases m == "exit" <;> cases m == "initialized" <;> exact ⟨rfl, rfl⟩
  | _ =>
    cases h
    simp only [step, RpcSpec.onNote, t, Bool.and_false]
    cases m == "exit" <;> cases m == "initialized" <;> exact ⟨rfl, rfl⟩

theorem exited_run (c : Nat) (ms : List CMsg) : runFrom (.exited c) ms = (.exited c, []) := by
  induction ms with
  | nil => rfl
  | cons m ms ih => simp [runFrom, step, ih]

theorem spec_exited (s : RpcSpec.St) (c : Nat) (h : s.exited = some c) (ms : List CMsg) :
    RpcSpec.go s ms = ([], c) := by
  cases ms <;> simp only [RpcSpec.go, h, Option.getD_some]

theorem runFrom_cons (p : Phase) (m : CMsg) (ms : List CMsg) :
    runFrom p (m :: ms) =
      ((runFrom (step p m).1 ms).1, (step p m).2 ++ (runFrom (step p m).1 ms).2) := rfl

theorem go_req {s : RpcSpec.St} (hx : s.exited = none) (id : Int) (m : String) (ms : List CMsg) :
    RpcSpec.go s (.req id m :: ms) =
      ((RpcSpec.respond s id m).2 :: (RpcSpec.go (RpcSpec.respond s id m).1 ms).1,
        (RpcSpec.go (RpcSpec.respond s id m).1 ms).2) := by
  simp only [RpcSpec.go, hx]

theorem go_note {s : RpcSpec.St} (hx : s.exited = none) (m : String) (ms : List CMsg) :
    RpcSpec.go s (.note m :: ms) = RpcSpec.go (RpcSpec.onNote s m) ms := by
  simp only [RpcSpec.go, hx]
  split
  · rename_i c hc
    exact (spec_exited _ c hc ms).symm
  · rfl

theorem sim {p : Phase} {s : RpcSpec.St} (h : Sim p s) (ms : List CMsg) :
    ((runFrom p ms).2, eofStatus (runFrom p ms).1) = RpcSpec.go s ms := by
  induction ms generalizing p s with
  | nil =>
    cases p with
    | exited c => rw [RpcSpec.go, show s.exited = some c from h]; rfl
    | _ => cases h; rfl
  | cons m ms ih =>
    cases hx : s.exited with
    | some c =>
      cases p with
      | exited c' => rw [exited_run, spec_exited s c' h]; rfl
      | _ => cases h; cases hx
    | none =>
      cases m with
      | req id meth =>
        obtain ⟨hs, ho⟩ := step_req h hx id meth
        rw [go_req hx, ← ih hs, runFrom_cons, ho]
        rfl
      | note meth =>
        obtain ⟨hs, ho⟩ := step_note h hx meth
        rw [go_note hx, ← ih hs, runFrom_cons, ho]
        rfl

/-- **C18 (lifecycle).** For every finite sequence of client requests and notifications,
    followed by end of input, the server model produces exactly the responses (one per
    request, its id, request order, prescribed error codes) and the exit status the
    specification prescribes. -/
theorem responses_conform (ms : List CMsg) : Rpc.run ms = RpcSpec.run ms :=
  sim (p := .preInit) rfl ms

/-- Exactly one response per request that is processed before the process exits. -/
theorem one_response_per_request (p : Phase) (m : CMsg) :
    (step p m).2.length = (match p, m with
      | .exited _, _ => 0
      | _, .req _ _ => 1
      | _, .note _ => 0) := by
  cases p <;> cases m <;> simp only [step] <;> (repeat' split) <;> rfl

/-- End of input terminates the process from every phase: no phase waits on anything but
    input, and the status is 0 unless `exit` decided otherwise. -/
theorem eof_terminates (p : Phase) : eofStatus p = (match p with | .exited c => c | _ => 0) := by
  cases p <;> rfl

end Spl.C18
