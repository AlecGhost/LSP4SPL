/-
  C09 — Formatting never changes the program.  Property theorems only.
-/
import SplVerif.Model.Format
import SplVerif.Lemmas.FmtProgram
import SplVerif.Props.C06

namespace Spl.C09
open Spl.Fmt Spl.Feat

/-- **The edit replaces exactly the whole document.**  Whenever formatting returns an edit,
    its range starts at (0,0) and ends at the position of the end of the text. -/
theorem whole_document_edit (d : AnalyzedSource) (sp : Bool) (ts : Nat) (r : PosRange) (t : List Char)
    (h : Fmt.format d sp ts = .ok (some (r, t))) :
    r = (⟨0, 0⟩, asPosition (utf8Len d.text) d.text) := by
  simp only [Fmt.format] at h
  split at h
  · cases h
  · split at h
    · cases h
    · cases h
      have : asPosition 0 d.text = ⟨0, 0⟩ := by cases d.text <;> rfl
      rw [asPosRange, this]

/-- Literals are re-printed with their value: decimal as decimal, hexadecimal as `0x` +
    upper-case digits (at least two), the newline character as `'\n'`. -/
theorem display_char_newline : Parse.displayToken (.Char '\n') = ['\'', '\\', 'n', '\''] := by decide
theorem display_hex_10 : Parse.displayToken (.Hex (.Int 10)) = "0x0A".toList := by decide
theorem display_hex_4096 : Parse.displayToken (.Hex (.Int 4096)) = "0x1000".toList := by decide

/-- the formatter's options as `features::format` builds them from the request -/
def optionsOf (insertSpaces : Bool) (tabSize : Nat) : Options := if insertSpaces then ⟨' ', tabSize⟩ else ⟨'\t', 1⟩

theorem optionsOf_ok (insertSpaces : Bool) (tabSize : Nat) : FmtStmt.OptOK (optionsOf insertSpaces tabSize) := by
  cases insertSpaces
  · exact Or.inr rfl
  · exact Or.inl rfl

/-- **C09 for programs without comments (`format_preserves_tokens_partial`).**  For every lexically valid text
    without comments (the independent lexer specification tokenises it into `toks`) from whose tokens the grammar
    specification derives a program `p` — i.e. for every syntactically valid comment-free SPL text of any size —,
    for every `insertSpaces` and `tabSize`: the formatter model succeeds on `p`, and tokenising the text it prints
    (with the lexer specification, hence — `C06.lex_conforms` — with the model of `lexer::lex`) yields tokens of
    exactly the types of the original tokens, in order.  Token types carry the spelling of identifiers and the value
    of literals: nothing is lost, added, merged, split, renamed or re-valued, whatever the original layout was.
    PARTIAL with respect to the property only in that texts with comments are not covered by the theorem (they are
    judged on every run: JUDGEFMT09). -/
theorem format_preserves_tokens_partial (insertSpaces : Bool) (tabSize : Nat) (text : List Char) (toks : List Token)
    (p : Program) (h1 : LexSpec.lex text = some toks) (h2 : ∀ t ∈ toks, t.kind ≠ Kind.Comment)
    (h3 : Grammar.parse toks = some p) :
    ∃ out ts', fmtProgram (optionsOf insertSpaces tabSize) p toks.toArray = .ok out ∧
      LexSpec.lex out = some ts' ∧ lex out = .ok ts' ∧ ts'.map (·.ty) = toks.map (·.ty) := by
  obtain ⟨out, ts', e1, e2, e3⟩ :=
    FmtProgram.format_lexes (optionsOf insertSpaces tabSize) (optionsOf_ok insertSpaces tabSize) text toks p h1 h2 h3
  exact ⟨out, ts', e1, e2, C06.lex_conforms out ts' e2, e3⟩

/-- … in terms of the request handler: for a document whose tokens and tree are those of its (valid, comment-free)
    text, `textDocument/formatting` answers `null` or one edit whose new text has the tokens of the old text. -/
theorem format_request_preserves_tokens (d : AnalyzedSource) (insertSpaces : Bool) (tabSize : Nat)
    (h1 : LexSpec.lex d.text = some d.tokens) (h2 : ∀ t ∈ d.tokens, t.kind ≠ Kind.Comment)
    (h3 : Grammar.parse d.tokens = some d.ast) :
    Fmt.format d insertSpaces tabSize = .ok none ∨
    ∃ r out ts', Fmt.format d insertSpaces tabSize = .ok (some (r, out)) ∧ lex out = .ok ts' ∧
      ts'.map (·.ty) = d.tokens.map (·.ty) := by
  obtain ⟨out, ts', e1, _, e3, e4⟩ := format_preserves_tokens_partial insertSpaces tabSize d.text d.tokens d.ast h1 h2 h3
  unfold optionsOf at e1
  simp only [Fmt.format, e1]
  split
  · exact Or.inl rfl
  · exact Or.inr ⟨_, out, ts', rfl, e3, e4⟩

/-- Non-vacuity: a comment-free program with a procedure, parameters, an array type, `if`/`else`, `while`, a call
    and literals of all three kinds meets the hypotheses of `format_preserves_tokens_partial`. -/
example :
    (match LexSpec.lex ("type v = array [0x10] of int;\nproc f(ref a: v, i: int) {\n  var k: int;\n  " ++
        "if (i < 10) a[i] := -'x'; else { while (k # 0) k := k - 1; }\n  f(a, (i + 1) * 2);\n}\nproc main() {}").toList with
      | some toks => toks.all (fun t => t.kind != Kind.Comment) && (Grammar.parse toks).isSome
      | none => false) = true := by
  -- the characters are read off the literals (`String.toList_ofList`): letting the kernel decode their UTF-8 bytes
  -- costs several times the lexing and parsing; the rewriting is done in `h`, outside the `match`
  generalize h : String.toList _ = l
  rw [String.toList_append, String.toList_ofList, String.toList_ofList] at h
  subst h
  decide +kernel

end Spl.C09
