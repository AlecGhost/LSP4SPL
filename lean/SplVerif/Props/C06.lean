/-
  C06 — Tokenisation is lossless and follows the SPL lexical grammar.
  Property theorems only (helpers live in Lemmas/Lex.lean).
-/
import SplVerif.Lemmas.LexConform
import SplVerif.Lemmas.Lex

namespace Spl.C06

theorem lexL_tiling : ∀ (r : List Char) (o : Nat),
    tilingGo (lexL r o ++ [eofToken (o + utf8Len r)]) r o = true := by
  intro r
  induction r using lexL_induct with
  | hnil => intro o; simp [tilingGo, eofToken, skipWsTo_self]
  | hsp c cs hc ih =>
    intro o
    have hrec := ih (o + c.utf8Size)
    rw [lexL_space hc, utf8Len_cons, ← Nat.add_assoc]
    refine tilingGo_cons_ws ((isSpace_eq_wsChar c).symm.trans hc) ?_ hrec
    intro t ht
    cases hl : lexL cs (o + c.utf8Size) with
    | nil => rw [hl] at ht; cases ht; exact Nat.le_add_right _ _
    | cons t0 ts0 => rw [hl] at ht; cases ht; exact lexL_lo _ _ _ (by rw [hl]; exact .head _)
  | htok c cs out hc hout ih =>
    intro o
    have hok := lexOne_ok hout
    have hrec := ih (o + utf8Len ((c :: cs).take out.n))
    rw [Nat.add_assoc, utf8Len_take_drop] at hrec
    have hpos := utf8Len_take_pos hok.pos hok.le
    rw [lexL_token hc hout]
    cases hsplit : lexL ((c :: cs).drop out.n) (o + utf8Len ((c :: cs).take out.n)) ++
        [eofToken (o + utf8Len (c :: cs))] with
    | nil => simp at hsplit
    | cons t' rest =>
      rw [hsplit] at hrec
      simp only [List.cons_append, hsplit, tilingGo, mkToken, skipWsTo_self,
        takeTo_take _ _ _ hok.le, hrec, Bool.and_true, Bool.and_eq_true, bne_iff_ne, ne_eq,
        decide_eq_true_eq]
      exact ⟨hok.notEof, by omega⟩

/-- **C06, tiling part (all Unicode strings).**  `lex` never fails, and its result is ordered,
    non-overlapping, on character boundaries, with whitespace-only gaps and exactly one final
    `Eof` at the end of the text (the decidable checker `tilingB`, which is also the judge of
    the implementation's output in the correspondence run). -/
theorem lex_tiling (s : List Char) : ∃ ts, lex s = .ok ts ∧ tilingB s ts = true := by
  refine ⟨_, lex_eq s, ?_⟩
  have := lexL_tiling s 0
  rwa [Nat.zero_add] at this

/-- `lex` never panics (the Rust `expect("Lexing must not fail")` is unreachable). -/
theorem lex_total (s : List Char) : ∃ ts, lex s = .ok ts := by
  obtain ⟨ts, h, _⟩ := lex_tiling s; exact ⟨ts, h⟩

/-- Non-vacuity / sanity: a text with 1-, 2-, 3- and 4-byte characters and every token class. -/
example : ∃ ts, lex "if x1 := 0x1F + 'é'; // €😀\n'".toList = .ok ts ∧ ts.length = 10 := by
  -- the literal's characters instead of its bytes: see the note at `C03.specVerdict_ofList`
  generalize h : String.toList _ = l
  rw [String.toList_ofList] at h
  subst h
  exact ⟨_, lex_eq _, by decide +kernel⟩

/-- Table obligation (regenerated alternatives): longest match among the fixed spellings —
    no earlier alternative's spelling is a proper prefix of a later one's. -/
theorem symbol_order_ok : SymbolOrderOK = true := by decide +kernel

/-- Table obligation: symbols never start like a word, a number, a character literal or
    whitespace, so "keywords only as whole words" and the literal classes are not shadowed. -/
theorem spelling_start_ok : spellingStartOK = true := by decide +kernel

/-- **C06, conformance part.**  On every text that the independently written maximal-munch
    specification accepts (`Spec/LexSpec.lean`: at every token start all lexeme classes propose a
    match, the longest wins, a word is a keyword only as a whole word; whitespace is skipped;
    texts containing a malformed literal or a character no lexeme starts with are outside it), the
    model of `lexer::lex` returns exactly the specification's token sequence — same types and
    values, same byte ranges, no lexical errors, one final `Eof`.  No bound on the text. -/
theorem lex_conforms (s : List Char) (ts : List Token) (h : LexSpec.lex s = some ts) :
    lex s = .ok ts := by
  rw [Conform.go_conforms (s.length + 1) s 0 ts h, lex_eq, Nat.zero_add]

/-- Non-vacuity: the specification accepts a text with every token class. -/
example : (LexSpec.lex "if x1 <= 0x1F // c\n'a'".toList).isSome = true := by
  generalize h : String.toList _ = l
  rw [String.toList_ofList] at h
  subst h
  decide +kernel

end Spl.C06
