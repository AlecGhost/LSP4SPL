/-
  C10 — Formatting never loses or duplicates a comment.  Property theorems only.
-/
import SplVerif.Model.Format

namespace Spl.C10
open Spl.Fmt Spl.Feat

/-- The text the formatter model prints for a document (4 spaces). -/
def formatted (s : String) : Option (List Char) :=
  match AnalyzedSource.new s.toList with
  | .ok d =>
    match fmtProgram ⟨' ', 4⟩ d.ast d.tokens.toArray with
    | .ok t => some t
    | .error _ => none
  | .error _ => none

/-- `formatted` of a literal against a literal, with the characters of both read off the literals: evaluating
    `String.toList` in the kernel (UTF-8 decoding) would cost more than running the formatter. -/
theorem formatted_chars (l r : List Char)
    (h : (match AnalyzedSource.new l with
      | .ok d =>
        match fmtProgram ⟨' ', 4⟩ d.ast d.tokens.toArray with
        | .ok t => some t
        | .error _ => none
      | .error _ => none) = some r) :
    formatted (String.ofList l) = some (String.ofList r).toList := by
  rw [formatted, String.toList_ofList, String.toList_ofList]
  exact h

/-- Leading comments of declarations and statements are kept (each exactly once). -/
theorem leading_comment_kept :
    formatted "// a\nproc main() {\n// b\n;}" = some "// a\nproc main() {\n    // b\n    ;\n}\n".toList :=
  formatted_chars _ _ (by decide +kernel)

/-- **Known finding KF-C10 (witnesses).**  A comment in front of a closing brace, inside a
    procedure signature, inside a type expression or inside an if-condition belongs to no
    printed node and is dropped by the formatter as modelled. -/
theorem kf_c10_before_rcurly : formatted "proc main() {\n// lost\n}" = some "proc main() {}\n".toList :=
  formatted_chars _ _ (by decide +kernel)

theorem kf_c10_in_sig : formatted "proc main( // lost\n) {}" = some "proc main() {}\n".toList :=
  formatted_chars _ _ (by decide +kernel)

theorem kf_c10_in_type : formatted "type t = // lost\nint;" = some "type t = int;\n".toList :=
  formatted_chars _ _ (by decide +kernel)

theorem kf_c10_in_condition :
    formatted "proc main() {if (1 // lost\n< 2) ;}" = some "proc main() {\n    if (1 < 2)\n        ;\n}\n".toList :=
  formatted_chars _ _ (by decide +kernel)

end Spl.C10
