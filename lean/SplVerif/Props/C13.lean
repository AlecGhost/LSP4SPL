/-
  C13 — Find-references and rename cover exactly the occurrences of one binding.
  Property theorems only.
-/
import SplVerif.Model.Features

namespace Spl.C13
open Spl.Feat

/-- **Prepare-rename offers exactly the identifier's range**, for every identifier except `int`. -/
theorem prepare_iff (d : AnalyzedSource) (p : Pos) (c : Cursor) (hc : docCursor d p = .ok c) :
    prepareRename d p = .ok (match c.ident with
      | some i => if i.value == "int".toList then none else some (asPosRange i.range d.text)
      | none => none) := by
  simp only [prepareRename, hc]
  cases c.ident with
  | none => rfl
  | some i => simp only; split <;> rfl

/-- Rename is never offered for `int`, and find-references/rename agree on the binding:
    the references are the rename targets without the occurrence under the cursor. -/
theorem references_are_rename_targets_minus_cursor (d : AnalyzedSource) (p : Pos) (c : Cursor)
    (ident : Ident) (ctx : GlobalEntry) (ids : List Ident)
    (hc : docCursor d p = .ok c) (hi : c.ident = some ident) (hx : c.context = some ctx)
    (hint : (ident.value == "int".toList) = false)
    (hids : (findReferenced ident ctx d).bind (identTextRanges d) = .ok ids) :
    rename d p = .ok (some (ids.map (fun i => asPosRange i.range d.text))) ∧
    references d p = .ok (some ((ids.filter (fun i => i != ident)).map (fun i => asPosRange i.range d.text))) := by
  have hne : ¬ ident.value = ['i', 'n', 't'] := by simpa using hint
  simp [rename, references, hc, hi, hx, hne, hids]

def AllNamed (name : List Char) (l : List Identifier) : Prop := ∀ i ∈ l, i.value = name

theorem allNamed_nil (name : List Char) : AllNamed name [] := fun _ h => nomatch h

theorem allNamed_append {name : List Char} {a b : List Identifier}
    (ha : AllNamed name a) (hb : AllNamed name b) : AllNamed name (a ++ b) :=
  fun i hi => (List.mem_append.mp hi).elim (ha i) (hb i)

theorem allNamed_shift {name : List Char} {l : List Identifier} (d : Nat) (h : AllNamed name l) :
    AllNamed name (shiftIds l d) := by
  intro i hi
  obtain ⟨j, hj, rfl⟩ := List.mem_map.mp hi
  exact h j hj

theorem allNamed_filter {name : List Char} (l : List Identifier) : AllNamed name (l.filter (·.value == name)) :=
  fun _ hi => eq_of_beq (List.mem_filter.mp hi).2

theorem allNamed_single {name : List Char} (id : Identifier) :
    AllNamed name (if id.value == name then [id] else []) := by
  split
  · exact fun i hi => List.mem_singleton.mp hi ▸ eq_of_beq ‹_›
  · exact allNamed_nil name

theorem allNamed_optSingle {name : List Char} : ∀ o : Option Identifier, AllNamed name (match o with
    | some n => if n.value == name then [n] else []
    | none => [])
  | some n => allNamed_single n
  | none => allNamed_nil name

theorem allNamed_flatMap {α} {name : List Char} (l : List α) (f : α → List Identifier)
    (h : ∀ x ∈ l, AllNamed name (f x)) : AllNamed name (l.flatMap f) := by
  intro i hi
  obtain ⟨x, hx, hix⟩ := List.mem_flatMap.mp hi
  exact h x hx i hix

theorem allNamed_filterMap {α} {name : List Char} (l : List α) (f : α → Option Identifier)
    (h : ∀ x i, f x = some i → i.value = name) : AllNamed name (l.filterMap f) := by
  intro i hi
  obtain ⟨x, _, hx⟩ := List.mem_filterMap.mp hi
  exact h x i hx

theorem named_of_shift {name : List Char} {n i : Identifier} {d : Nat}
    (h : (if n.value == name then some (n.shift d) else none) = some i) : i.value = name := by
  split at h <;> cases h
  exact eq_of_beq ‹_›

mutual
  theorem varsInVar_named (name : List Char) : ∀ v : Var, AllNamed name (varsInVar name v)
    | .named id => allNamed_single id
    | .access a idx _ => allNamed_append (varsInVar_named name a) (varsInOptExpr_named name idx)
  theorem varsInExpr_named (name : List Char) : ∀ e : Expr, AllNamed name (varsInExpr name e)
    | .var v => varsInVar_named name v
    | .binary _ l r _ => allNamed_append (varsInExpr_named name l) (varsInExpr_named name r)
    | .bracketed e _ | .unary _ e _ => varsInExpr_named name e
    | .intLit _ | .error _ => allNamed_nil name
  theorem varsInOptExpr_named (name : List Char) : ∀ e : OptExpr, AllNamed name (varsInOptExpr name e)
    | .none => allNamed_nil name
    | .some e o => allNamed_shift o (varsInExpr_named name e)
end

theorem varsInOptRefExpr_named (name : List Char) : ∀ r : Option (Ref Expr), AllNamed name (varsInOptRefExpr name r)
  | none => allNamed_nil name
  | some r => allNamed_shift _ (varsInExpr_named name r.val)

mutual
  theorem varsInStmt_named (name : List Char) : ∀ s : Stmt, AllNamed name (varsInStmt name s)
    | .assign a => allNamed_append (varsInVar_named name a.target) (varsInOptRefExpr_named name a.expr)
    | .block ss _ => varsInList_named name ss
    | .call _ => allNamed_flatMap _ _ fun r _ => allNamed_shift _ (varsInExpr_named name r.val)
    | .ifS c t e _ =>
      allNamed_append (allNamed_append (varsInOptRefExpr_named name c) (varsInOpt_named name t)) (varsInOpt_named name e)
    | .whileS c b _ => allNamed_append (varsInOptRefExpr_named name c) (varsInOpt_named name b)
    | .empty _ | .error _ => allNamed_nil name
  theorem varsInOpt_named (name : List Char) : ∀ s : OptStmt, AllNamed name (varsInOpt name s)
    | .none => allNamed_nil name
    | .some s o => allNamed_shift o (varsInStmt_named name s)
  theorem varsInList_named (name : List Char) : ∀ s : StmtList, AllNamed name (varsInList name s)
    | .nil => allNamed_nil name
    | .cons s o r => allNamed_append (allNamed_shift o (varsInStmt_named name s)) (varsInList_named name r)
end

/-- **No foreign identifier is ever reported or renamed** (variables): for every program, every
    procedure and every name, each occurrence `find_vars` returns — parameter declarations, local
    declarations and uses in the body, at any nesting depth — is spelled exactly like the searched
    name (case-sensitive). -/
theorem findVars_named (name procName : List Char) (p : Program) :
    ∀ i ∈ findVars name procName p, i.value = name := by
  unfold findVars
  split
  · split
    · refine allNamed_shift _ (allNamed_append (allNamed_append ?_ ?_)
        (allNamed_flatMap _ _ fun s _ => allNamed_shift _ (varsInStmt_named name s.val)))
      · refine allNamed_filterMap _ _ fun prm i h => ?_
        split at h
        · exact named_of_shift h
        · cases h
      · refine allNamed_filterMap _ _ fun v i h => ?_
        split at h
        · exact named_of_shift h
        · cases h
    · exact allNamed_nil name
  · exact allNamed_nil name

mutual
  theorem procsInStmt_named (name : List Char) : ∀ s : Stmt, AllNamed name (procsInStmt name s)
    | .block ss _ => procsInList_named name ss
    | .call c => allNamed_single c.name
    | .ifS _ t e _ => allNamed_append (procsInOpt_named name t) (procsInOpt_named name e)
    | .whileS _ b _ => procsInOpt_named name b
    | .assign _ | .empty _ | .error _ => allNamed_nil name
  theorem procsInOpt_named (name : List Char) : ∀ s : OptStmt, AllNamed name (procsInOpt name s)
    | .none => allNamed_nil name
    | .some s o => allNamed_shift o (procsInStmt_named name s)
  theorem procsInList_named (name : List Char) : ∀ s : StmtList, AllNamed name (procsInList name s)
    | .nil => allNamed_nil name
    | .cons s o r => allNamed_append (allNamed_shift o (procsInStmt_named name s)) (procsInList_named name r)
end

/-- … procedures: the declaring name and every call, at any nesting depth. -/
theorem findProcs_named (name : List Char) (p : Program) : ∀ i ∈ findProcs name p, i.value = name := by
  refine allNamed_flatMap _ _ fun gd _ => ?_
  split
  · exact allNamed_shift _ (allNamed_append (allNamed_optSingle _)
      (allNamed_flatMap _ _ fun s _ => allNamed_shift _ (procsInStmt_named name s.val)))
  · exact allNamed_nil name

/-- … types: the declaring name and every use in type expressions of type declarations,
    parameters and local variables (through any nesting of `array … of`). -/
theorem findTypes_named (name : List Char) (p : Program) : ∀ i ∈ findTypes name p, i.value = name := by
  refine allNamed_flatMap _ _ fun gd _ => allNamed_shift _ ?_
  split
  · exact allNamed_append (allNamed_optSingle _) (allNamed_optSingle _)
  · exact allNamed_append (allNamed_filter _) (allNamed_filter _)
  · exact allNamed_nil name

end Spl.C13
