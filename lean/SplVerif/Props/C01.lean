/-
  C01 — Incremental re-analysis equals analysis from scratch.  Property theorems only.
-/
import SplVerif.Model.Table
import SplVerif.Props.C07

namespace Spl.C01

/-- **Table and semantic layers are pure functions of the tree.**  If, after the incremental
    text/token/tree steps of a batch of changes, the token sequence is the batch lexing of the
    new text and the tree is the batch parse of those tokens, then `update` returns exactly what
    `AnalyzedSource::new` returns for the final text (tokens, tree with every diagnostic, table). -/
theorem update_eq_new_of_tree_eq (d d1 : AnalyzedSource) (cs : List TextChange)
    (hgo : AnalyzedSource.update.go d cs = .ok d1)
    (hlex : lex d1.text = .ok d1.tokens)
    (hparse : Parse.parse d1.tokens = .ok d1.ast) :
    d.update cs = AnalyzedSource.new d1.text := by
  unfold AnalyzedSource.update AnalyzedSource.new
  simp only [hgo, hlex, hparse]

theorem applyChange_ok {d d' : AnalyzedSource} {c : TextChange} (h : d.applyChange c = .ok d') :
    ∃ t toks tc ast, replaceRange d.text c.lo c.hi c.text = some t ∧
      lexUpdate t d.tokens c.lo c.hi (utf8Len c.text) = .ok (toks, tc) ∧
      Parse.update d.ast toks tc = .ok ast ∧ d' = { d with text := t, tokens := toks, ast := ast } := by
  unfold AnalyzedSource.applyChange at h
  split at h
  · cases h
  · split at h
    · cases h
    · split at h
      · cases h
      · cases h; exact ⟨_, _, _, _, ‹_›, ‹_›, ‹_›, rfl⟩

/-- The text layer of `update` is the fold of `replace_range` (C08 lifts it to LSP changes). -/
theorem applyChange_text (d d' : AnalyzedSource) (c : TextChange) (h : d.applyChange c = .ok d') :
    replaceRange d.text c.lo c.hi c.text = some d'.text := by
  obtain ⟨t, _, _, _, ht, _, _, rfl⟩ := applyChange_ok h
  exact ht

theorem splitAtByte_spec : ∀ (t : List Char) (n : Nat) (a b : List Char),
    splitAtByte t n = some (a, b) → t = a ++ b ∧ utf8Len a = n
  | r, 0, a, b, h => by
    rw [splitAtByte] at h
    cases h
    exact ⟨rfl, rfl⟩
  | [], n + 1, a, b, h => by rw [splitAtByte] at h; cases h
  | c :: cs, n + 1, a, b, h => by
    rw [splitAtByte] at h
    split at h
    · cases hs : splitAtByte cs (n + 1 - c.utf8Size) with
      | none => rw [hs] at h; cases h
      | some r =>
        rw [hs] at h
        cases h
        obtain ⟨e1, e2⟩ := splitAtByte_spec cs _ r.1 r.2 hs
        exact ⟨by rw [e1]; rfl, by rw [utf8Len_cons]; omega⟩
    · cases h

/-- a successful `replace_range(lo..hi, ins)` decomposes the text at the two byte positions -/
theorem replaceRange_spec (t : List Char) (lo hi : Nat) (ins t' : List Char)
    (h : replaceRange t lo hi ins = some t') :
    ∃ pre mid post, t = pre ++ mid ++ post ∧ t' = pre ++ ins ++ post ∧
      lo = utf8Len pre ∧ hi = utf8Len pre + utf8Len mid := by
  unfold replaceRange at h
  split at h
  · cases h
  · split at h
    · cases h
    · rename_i pre rest h1
      split at h
      · cases h
      · rename_i mid post h2
        cases h
        obtain ⟨e1, e2⟩ := splitAtByte_spec t lo pre rest h1
        obtain ⟨e3, e4⟩ := splitAtByte_spec rest (hi - lo) mid post h2
        exact ⟨pre, mid, post, by rw [e1, e3, List.append_assoc], rfl, e2.symm, by omega⟩

/-- **C01, token layer (unconditional).**  One incremental step keeps "the tokens are the fresh
    tokenisation of the text": whatever the change, if the step does not panic, the new token
    sequence is `lex` of the new text (C07.update_eq_lex). -/
theorem applyChange_tokens (d d' : AnalyzedSource) (c : TextChange)
    (hinv : lex d.text = .ok d.tokens) (h : d.applyChange c = .ok d') :
    lex d'.text = .ok d'.tokens := by
  obtain ⟨t, toks, tc, _, ht, hu, _, rfl⟩ := applyChange_ok h
  obtain ⟨pre, mid, post, e1, rfl, e3, e4⟩ := replaceRange_spec _ _ _ _ _ ht
  rw [e1] at hinv
  obtain ⟨new, ch, hu', hl⟩ := C07.update_eq_lex pre mid c.text post d.tokens hinv
  rw [e3, e4, hu'] at hu
  cases hu
  exact hl

theorem go_cons {d d1 : AnalyzedSource} {c : TextChange} {cs : List TextChange}
    (h : AnalyzedSource.update.go d (c :: cs) = .ok d1) :
    ∃ d', d.applyChange c = .ok d' ∧ AnalyzedSource.update.go d' cs = .ok d1 := by
  rw [AnalyzedSource.update.go] at h
  split at h
  · cases h
  · exact ⟨_, ‹_›, h⟩

/-- … and over any batch of changes: after `update`'s incremental fold the tokens are the fresh
    tokenisation of the final text.  The lexer layer of `update` never panics (`C07`); only the
    tree layer can (KF-C02). -/
theorem go_tokens (d d1 : AnalyzedSource) (cs : List TextChange)
    (hinv : lex d.text = .ok d.tokens) (hgo : AnalyzedSource.update.go d cs = .ok d1) :
    lex d1.text = .ok d1.tokens := by
  induction cs generalizing d with
  | nil => cases hgo; exact hinv
  | cons c cs ih =>
    obtain ⟨d', ha, hgo'⟩ := go_cons hgo
    exact ih d' (applyChange_tokens d d' c hinv ha) hgo'

/-- **C01/C08, text layer over a batch**: after the incremental fold the document text is the
    left fold of `replace_range` over the changes — whatever the tokens and the tree do. -/
theorem go_text (d d1 : AnalyzedSource) (cs : List TextChange)
    (hgo : AnalyzedSource.update.go d cs = .ok d1) :
    cs.foldl (fun (acc : Option (List Char)) c => acc.bind (fun t => replaceRange t c.lo c.hi c.text))
      (some d.text) = some d1.text := by
  induction cs generalizing d with
  | nil => cases hgo; rfl
  | cons c cs ih =>
    obtain ⟨d', ha, hgo'⟩ := go_cons hgo
    rw [List.foldl_cons, Option.bind_some, applyChange_text d d' c ha]
    exact ih d' hgo'

/-- … and `update` returns a document with exactly that text. -/
theorem update_text (d u : AnalyzedSource) (cs : List TextChange) (h : d.update cs = .ok u) :
    cs.foldl (fun (acc : Option (List Char)) c => acc.bind (fun t => replaceRange t c.lo c.hi c.text))
      (some d.text) = some u.text := by
  unfold AnalyzedSource.update at h
  split at h
  · cases h
  · rename_i d1 hgo
    split at h
    · cases h
    · split at h
      · cases h
      · cases h; exact go_text d d1 cs hgo

/-- C01 up to the tree layer: the tokens after `update`'s fold are the fresh ones (`go_tokens`), so if the incremental
    tree equals the fresh parse, `update` returns exactly `AnalyzedSource::new` of the final text. -/
theorem update_eq_new_of_tree (d d1 : AnalyzedSource) (cs : List TextChange)
    (hinv : lex d.text = .ok d.tokens)
    (hgo : AnalyzedSource.update.go d cs = .ok d1)
    (hparse : Parse.parse d1.tokens = .ok d1.ast) :
    d.update cs = AnalyzedSource.new d1.text :=
  update_eq_new_of_tree_eq d d1 cs hgo (go_tokens d d1 cs hinv hgo) hparse

/-- Model-level observation of one incremental step followed by the comparison with the fresh
    analysis of the resulting text: numbers of diagnostics attached to the two trees. -/
def errorCounts (text : List Char) (c : TextChange) : Option (Nat × Nat) :=
  match AnalyzedSource.new text with
  | .ok d =>
    match d.update [c] with
    | .ok u =>
      match AnalyzedSource.new u.text with
      | .ok f => some (u.ast.errors.length, f.ast.errors.length)
      | _ => none
    | _ => none
  | _ => none

/-- **Known finding KF-C01-parser (witness).**  The tree layer of C01 is false for the code as
    modelled: in the valid program `proc main(){var a:int;var b:int;}` replacing the `n` of the
    first `int` by a space makes `parser::update` reuse the old node of `var b:int;` where a
    fresh parse rejects it — the incremental tree carries 3 diagnostics, the fresh one 4. -/
theorem kf_c01_parser_witness :
    errorCounts "proc main(){var a:int;var b:int;}".toList ⟨19, 20, [' ']⟩ = some (3, 4) := by
  -- the literal's characters instead of its bytes: see the note at `C03.specVerdict_ofList`
  generalize h : String.toList _ = l
  rw [String.toList_ofList] at h
  subst h
  decide +kernel

end Spl.C01
