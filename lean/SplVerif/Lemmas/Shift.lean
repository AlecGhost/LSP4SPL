/-
  Lemmas for C05: the grammar specification does not care where in the token sequence a run of
  declarations stands.  If the token array `g'` is the array `g` without its first `δ` tokens (and the
  token in front of the cut is not a comment), then deriving from the shifted tokens in `g` gives the
  derivation in `g'` with every range moved by `δ` — nothing else changes.  The implementation's convention
  (`rel*`) measures ranges from the enclosing reference, so there the move cancels (`rel*_sh`): a declaration loop
  standing on the same tokens elsewhere returns the same sub-trees (`tail_as_before`).  The end of the file cuts a
  derivation of declarations at any declaration boundary (`decls_split`).
-/
import SplVerif.Lemmas.Prefix

namespace Spl.Shift
open Spl Spl.Grammar

def shI (δ : Nat) (i : AstInfo) : AstInfo := { i with range := ⟨i.range.lo + δ, i.range.hi + δ⟩ }

def shT (δ : Nat) (ts : Toks) : Toks := ts.map (fun t => ⟨t.idx + δ, t.ty⟩)

def shS (δ : Nat) (s : Span) : Span := ⟨s.first + δ, s.last + δ⟩

@[simp] theorem shT_nil (δ : Nat) : shT δ [] = [] := rfl
@[simp] theorem shT_cons (δ : Nat) (t : ITok) (r : Toks) : shT δ (t :: r) = ⟨t.idx + δ, t.ty⟩ :: shT δ r := rfl
@[simp] theorem shT_length (δ : Nat) (ts : Toks) : (shT δ ts).length = ts.length := List.length_map _

theorem shS_first (δ : Nat) (s : Span) : (shS δ s).first = s.first + δ := rfl
theorem shS_last (δ : Nat) (s : Span) : (shS δ s).last = s.last + δ := rfl

/-- Moved tokens fall through a pattern that the tokens themselves fall through.  In this form `simp` discharges
    the side condition of a `match` on `shT δ ts` from the one on `ts` that a functional induction principle supplies. -/
theorem shT_ne_cons {δ : Nat} {ts : Toks} {ty : TokenType} (hne : ∀ i r, ts = ⟨i, ty⟩ :: r → False) (i : Nat) (r : Toks) :
    (shT δ ts = ⟨i, ty⟩ :: r) = False := by
  cases ts with
  | nil => exact eq_false nofun
  | cons t r' => exact eq_false fun e => hne t.idx r' (by cases t; cases e; rfl)

theorem shT_ne_ident {δ : Nat} {ts : Toks} (hne : ∀ i s r, ts = ⟨i, .Ident s⟩ :: r → False) (i : Nat) (s : List Char)
    (r : Toks) : (shT δ ts = ⟨i, .Ident s⟩ :: r) = False :=
  shT_ne_cons (fun i r => hne i s r) i r

/-- what the specification reads from the context, related between the two arrays -/
structure DropOK (g g' : GCtx) (δ : Nat) : Prop where
  lead : ∀ i, lead g (i + δ) = lead g' i + δ
  doc : ∀ i, docOf g (i + δ) = docOf g' i

variable {g g' : GCtx} {δ : Nat}

theorem mkInfo_sh (h : DropOK g g' δ) (a b : Nat) : mkInfo g (a + δ) (b + δ) = shI δ (mkInfo g' a b) := by
  simp only [mkInfo, shI, h.lead, Nat.add_right_comm]

theorem mkIdent_sh (h : DropOK g g' δ) (i : Nat) (s : List Char) :
    mkIdent g (i + δ) s = (mkIdent g' i s).mapInfo (shI δ) :=
  congrArg (Identifier.mk s) (mkInfo_sh h i i)

theorem expectK_sh (k : Kind) (ts : Toks) :
    expectK k (shT δ ts) = (expectK k ts).map (fun r => (r.1 + δ, shT δ r.2)) := by
  cases ts with
  | nil => rfl
  | cons t r => simp only [shT_cons, expectK]; cases t.ty.kind == k <;> rfl

theorem identTok_sh (ts : Toks) :
    identTok (shT δ ts) = (identTok ts).map (fun r => (r.1 + δ, r.2.1, shT δ r.2.2)) := by
  fun_cases identTok ts
  · rfl
  · simp only [identTok, shT_ne_ident, false_implies, implies_true, *, Option.map_none]

theorem intLitTok_sh (h : DropOK g g' δ) (ts : Toks) :
    intLitTok g (shT δ ts) = (intLitTok g' ts).map (fun r => (r.1.mapInfo (shI δ), r.2.1 + δ, shT δ r.2.2)) := by
  cases ts with
  | nil => rfl
  | cons t r =>
    obtain ⟨i, ty⟩ := t
    cases ty with
    | Int v | Hex v =>
      cases v <;> simp only [shT_cons, intLitTok, Option.map_some, Option.map_none, IntLiteral.mapInfo, mkInfo_sh h]
    | Char c =>
      by_cases hc : c.toNat < 256 <;>
        simp only [shT_cons, intLitTok, hc, if_true, if_false, Option.map_some, Option.map_none, IntLiteral.mapInfo, mkInfo_sh h]
    | _ => rfl

def shE (δ : Nat) (r : Expr × Span × Toks) : Expr × Span × Toks := (r.1.mapInfo (shI δ), shS δ r.2.1, shT δ r.2.2)
def shV (δ : Nat) (r : Var × Span × Toks) : Var × Span × Toks := (r.1.mapInfo (shI δ), shS δ r.2.1, shT δ r.2.2)

structure ESh (g g' : GCtx) (δ F : Nat) : Prop where
  expr : ∀ ts, Grammar.expr g F (shT δ ts) = (Grammar.expr g' F ts).map (shE δ)
  add : ∀ ts, Grammar.add g F (shT δ ts) = (Grammar.add g' F ts).map (shE δ)
  addRest : ∀ l sl ts, Grammar.addRest g F (l.mapInfo (shI δ)) (shS δ sl) (shT δ ts) = (Grammar.addRest g' F l sl ts).map (shE δ)
  mul : ∀ ts, Grammar.mul g F (shT δ ts) = (Grammar.mul g' F ts).map (shE δ)
  mulRest : ∀ l sl ts, Grammar.mulRest g F (l.mapInfo (shI δ)) (shS δ sl) (shT δ ts) = (Grammar.mulRest g' F l sl ts).map (shE δ)
  factor : ∀ ts, Grammar.factor g F (shT δ ts) = (Grammar.factor g' F ts).map (shE δ)
  varAccess : ∀ ts, Grammar.varAccess g F (shT δ ts) = (Grammar.varAccess g' F ts).map (shV δ)
  accesses : ∀ v sv ts, Grammar.accesses g F (v.mapInfo (shI δ)) (shS δ sv) (shT δ ts) = (Grammar.accesses g' F v sv ts).map (shV δ)

/-- Functional induction over the eight expression functions in `g'`.  In every branch the same function in `g`
    takes the same branch on the moved tokens: the tests read token types only, every sub-derivation is moved by
    the induction hypothesis, and `mkInfo`, `mkIdent` commute with the move. -/
theorem esh (h : DropOK g g' δ) : ∀ F, ESh g g' δ F := by
  -- the eight fields for all `F` at once, which is what the induction principle concludes
  refine (fun (H : (∀ F, _) ∧ (∀ F, _) ∧ (∀ F, _) ∧ (∀ F, _) ∧ (∀ F, _) ∧ (∀ F, _) ∧ (∀ F, _) ∧ (∀ F, _)) F =>
    (⟨H.1 F, H.2.1 F, H.2.2.1 F, H.2.2.2.1 F, H.2.2.2.2.1 F, H.2.2.2.2.2.1 F, H.2.2.2.2.2.2.1 F, H.2.2.2.2.2.2.2 F⟩ :
      ESh g g' δ F)) ?_
  apply Grammar.expr.mutual_induct g'
  all_goals intros
  -- a factor that starts with an identifier is the variable access on the same tokens, so that the induction
  -- hypothesis is about `shT δ (_ :: _)`
  case' case29 ih | case30 ih => rw [shT_cons] at ih
  all_goals simp only [Grammar.expr, Grammar.add, Grammar.addRest, Grammar.mul, Grammar.mulRest, Grammar.factor,
    Grammar.varAccess, Grammar.accesses, shT_cons, shT_nil, shT_ne_cons, shT_ne_ident, false_implies, implies_true,
    expectK_sh, identTok_sh, intLitTok_sh h, *, Option.map_some, Option.map_none, shE, shV, shS_first, shS_last,
    mkInfo_sh h, mkIdent_sh h]
  -- left: an equation between equal trees, or the induction hypothesis of a loop
  all_goals first | rfl | assumption

def shTy (δ : Nat) (r : TypeExpr × Span × Toks) : TypeExpr × Span × Toks := (r.1.mapInfo (shI δ), shS δ r.2.1, shT δ r.2.2)

theorem typeExpr_sh (h : DropOK g g' δ) : ∀ (F : Nat) (ts : Toks),
    Grammar.typeExpr g F (shT δ ts) = (Grammar.typeExpr g' F ts).map (shTy δ) := by
  intro F ts
  fun_induction Grammar.typeExpr g' F ts
  all_goals simp only [Grammar.typeExpr, shT_cons, shT_ne_cons, false_implies, implies_true, expectK_sh, identTok_sh,
    intLitTok_sh h, *, Option.map_some, Option.map_none, shTy, shS_last, mkInfo_sh h, mkIdent_sh h]
  all_goals rfl

def shRef {α} (f : α → α) (l : List (Ref α)) : List (Ref α) := l.map (Ref.map f)

theorem exprList_sh (h : DropOK g g' δ) : ∀ (F : Nat) (ts : Toks),
    Grammar.exprList g F (shT δ ts) =
      (Grammar.exprList g' F ts).map (fun r => (r.1.map (Ref.map (·.mapInfo (shI δ))), shT δ r.2)) := by
  intro F ts
  fun_induction Grammar.exprList g' F ts
  all_goals simp only [Grammar.exprList, shT_length, (esh h _).expr, *, Option.map_some, Option.map_none, shE, shT_cons,
    shT_ne_cons, false_implies, implies_true]
  all_goals rfl

theorem head_or (ty : TokenType) (r : Toks) : (∃ i t, r = ⟨i, ty⟩ :: t) ∨ (∀ i t, r = ⟨i, ty⟩ :: t → False) :=
  (Classical.em _).imp_right fun hn i t e => hn ⟨i, t, e⟩

theorem expectK_rparen (q : Nat) (u : Toks) : expectK .RParen (⟨q, .RParen⟩ :: u) = some (q, u) := rfl

def shSt (δ : Nat) (r : Stmt × Span × Toks) : Stmt × Span × Toks := (r.1.mapInfo (shI δ), shS δ r.2.1, shT δ r.2.2)
def shSL (δ : Nat) (r : StmtList × Toks) : StmtList × Toks := (r.1.mapInfo (shI δ), shT δ r.2)

/-- A call.  Whether there are arguments is decided by the token behind `(`, which the move does not change. -/
theorem stmt_call_sh (h : DropOK g g' δ) (F i j : Nat) (s : List Char) (r : Toks) :
    Grammar.stmt g (F + 1) (shT δ (⟨i, .Ident s⟩ :: ⟨j, .LParen⟩ :: r)) =
      (Grammar.stmt g' (F + 1) (⟨i, .Ident s⟩ :: ⟨j, .LParen⟩ :: r)).map (shSt δ) := by
  rcases head_or .RParen r with ⟨k, r2, rfl⟩ | hne
  case' inl => simp only [Grammar.stmt, shT_cons, expectK_rparen]
  case' inr =>
    simp only [Grammar.stmt, shT_cons, shT_length, shT_ne_cons, false_implies, implies_true, exprList_sh h]
    rcases Grammar.exprList g' (r.length + 1) r with _ | ⟨as, r1⟩
    · rfl
    simp only [Option.map_some, expectK_sh]
    rcases expectK .RParen r1 with _ | ⟨_, r2⟩
    · rfl
    simp only [Option.map_some]
  all_goals
    simp only [expectK_sh]
    rcases expectK .Semic r2 with _ | ⟨q, r3⟩
    · rfl
    simp only [Option.map_some, shSt, mkInfo_sh h, mkIdent_sh h]
    rfl

theorem varAccess_sh_cons (h : DropOK g g' δ) (F i : Nat) (ty : TokenType) (r : Toks) :
    Grammar.varAccess g F (⟨i + δ, ty⟩ :: shT δ r) = (Grammar.varAccess g' F (⟨i, ty⟩ :: r)).map (shV δ) :=
  (esh h F).varAccess (⟨i, ty⟩ :: r)

theorem ssh (h : DropOK g g' δ) :
    (∀ F ts, Grammar.stmt g F (shT δ ts) = (Grammar.stmt g' F ts).map (shSt δ)) ∧
    (∀ F ts, Grammar.stmts g F (shT δ ts) = (Grammar.stmts g' F ts).map (shSL δ)) := by
  apply Grammar.stmt.mutual_induct g'
  case case18 | case19 | case20 | case21 => intros; exact stmt_call_sh h ..
  -- an assignment: its variable access is read from the whole token list, whose length the hypotheses mention
  case' case22 | case23 | case24 | case25 | case26 => intros; simp only [List.length_cons] at *
  all_goals intros
  all_goals simp only [Grammar.stmt, Grammar.stmts, shT_cons, shT_length, List.length_cons, shT_ne_cons, shT_ne_ident,
    false_implies, implies_true, expectK_sh, (esh h _).expr, varAccess_sh_cons h, *, Option.map_some, Option.map_none,
    shE, shV, shSt, shSL, shS_last, mkInfo_sh h]
  all_goals rfl

theorem param_sh (h : DropOK g g' δ) (ts : Toks) :
    Grammar.param g (shT δ ts) = (Grammar.param g' ts).map (fun r => (r.1.mapInfo (shI δ), shT δ r.2)) := by
  rcases head_or .Ref ts with ⟨f, ts, rfl⟩ | hne
  all_goals
    simp only [Grammar.param, shT_cons, shT_ne_cons, false_implies, implies_true, *, identTok_sh]
    rcases identTok ts with _ | ⟨i, nm, r⟩
    · rfl
    simp only [Option.map_some, expectK_sh]
    rcases expectK .Colon r with _ | ⟨_, r1⟩
    · rfl
    simp only [Option.map_some, shT_length, typeExpr_sh h]
    rcases Grammar.typeExpr g' (2 * r1.length + 4) r1 with _ | ⟨t, st, r2⟩
    · rfl
    simp only [Option.map_some, shTy, shS_last, Option.getD_some, Option.getD_none, if_true, Bool.false_eq_true, if_false,
      h.doc, mkInfo_sh h, mkIdent_sh h, Nat.add_right_comm i δ 1]
    rfl

theorem params_sh (h : DropOK g g' δ) : ∀ (F : Nat) (ts : Toks),
    Grammar.params g F (shT δ ts) =
      (Grammar.params g' F ts).map (fun r => (r.1.map (Ref.map (ParamDecl.mapInfo (shI δ))), shT δ r.2)) := by
  intro F ts
  fun_induction Grammar.params g' F ts
  all_goals simp only [Grammar.params, param_sh h, *, Option.map_some, Option.map_none, shT_cons, shT_ne_cons,
    false_implies, implies_true]
  all_goals rfl

theorem varDecls_sh (h : DropOK g g' δ) : ∀ (F : Nat) (ts : Toks),
    Grammar.varDecls g F (shT δ ts) =
      (Grammar.varDecls g' F ts).map (fun r => (r.1.map (Ref.map (VarDecl.mapInfo (shI δ))), shT δ r.2)) := by
  intro F ts
  fun_induction Grammar.varDecls g' F ts
  all_goals simp only [Grammar.varDecls, shT_cons, shT_length, shT_ne_cons, false_implies, implies_true, expectK_sh,
    identTok_sh, typeExpr_sh h, *, Option.map_some, Option.map_none, shTy, h.doc, mkInfo_sh h, mkIdent_sh h]
  all_goals rfl

theorem stmtList_toList_map (f : AstInfo → AstInfo) : ∀ (l : StmtList),
    (l.mapInfo f).toList = l.toList.map (Ref.map (Stmt.mapInfo f))
  | .nil => rfl
  | .cons _ _ r => congrArg (_ :: ·) (stmtList_toList_map f r)

def shD (δ : Nat) (r : List (Ref GlobalDecl) × Option Nat) : List (Ref GlobalDecl) × Option Nat :=
  (r.1.map (Ref.map (GlobalDecl.mapInfo (shI δ))), r.2.map (· + δ))

theorem getD_sh (last : Option Nat) (k : Nat) : (last.map (· + δ)).getD (k + δ) = last.getD k + δ := by
  cases last <;> rfl

theorem decls_sh (h : DropOK g g' δ) : ∀ (F : Nat) (ts : Toks),
    Grammar.decls g F (shT δ ts) = (Grammar.decls g' F ts).map (shD δ)
  | 0, _ => rfl
  | F + 1, [] => rfl
  | F + 1, ⟨i, ty⟩ :: r => by
    cases ty with
    | Eof => cases r <;> rfl
    | «Type» =>
      simp only [shT_cons, Grammar.decls, identTok_sh]
      rcases identTok r with _ | ⟨j, nm, r1⟩
      · rfl
      simp only [Option.map_some, expectK_sh]
      rcases expectK .Eq r1 with _ | ⟨_, r2⟩
      · rfl
      simp only [Option.map_some, shT_length, typeExpr_sh h]
      rcases Grammar.typeExpr g' (2 * r2.length + 4) r2 with _ | ⟨t, _, r3⟩
      · rfl
      simp only [Option.map_some, shTy, expectK_sh]
      rcases expectK .Semic r3 with _ | ⟨k, r4⟩
      · rfl
      simp only [Option.map_some, decls_sh h F]
      rcases Grammar.decls g' F r4 with _ | ⟨ds, last⟩
      · rfl
      simp only [Option.map_some, shD, getD_sh, h.doc, mkInfo_sh h, mkIdent_sh h]
      rfl
    | Proc =>
      simp only [shT_cons, Grammar.decls, identTok_sh]
      rcases identTok r with _ | ⟨j, nm, r1⟩
      · rfl
      simp only [Option.map_some, expectK_sh]
      rcases expectK .LParen r1 with _ | ⟨_, r2⟩
      · rfl
      -- the parameter list `ps` and the tokens `r4` behind its `)`: nothing in front of `)`, `params` otherwise
      rcases head_or .RParen r2 with ⟨q, r4, rfl⟩ | hne
      case' inl => simp only [Option.map_some, shT_cons, expectK_rparen]
      case' inr =>
        simp only [Option.map_some, shT_length, shT_ne_cons, false_implies, implies_true, params_sh h]
        rcases Grammar.params g' (r2.length + 1) r2 with _ | ⟨ps, r3⟩
        · rfl
        simp only [Option.map_some, expectK_sh]
        rcases expectK .RParen r3 with _ | ⟨_, r4⟩
        · rfl
        simp only [Option.map_some]
      all_goals
        simp only [expectK_sh]
        rcases expectK .LCurly r4 with _ | ⟨_, r5⟩
        · rfl
        simp only [Option.map_some, shT_length, varDecls_sh h]
        rcases Grammar.varDecls g' (r5.length + 1) r5 with _ | ⟨vs, r6⟩
        · rfl
        simp only [Option.map_some, shT_length, (ssh h).2]
        rcases Grammar.stmts g' (2 * r6.length + 4) r6 with _ | ⟨ss, r7⟩
        · rfl
        simp only [Option.map_some, shSL, expectK_sh]
        rcases expectK .RCurly r7 with _ | ⟨k, r8⟩
        · rfl
        simp only [Option.map_some, decls_sh h F]
        rcases Grammar.decls g' F r8 with _ | ⟨ds, last⟩
        · rfl
        simp only [Option.map_some, shD, getD_sh, stmtList_toList_map, h.doc, mkInfo_sh h, mkIdent_sh h]
        rfl
    | _ => rfl

theorem get_drop {A A' : Array Token} {δ : Nat} (hdrop : A'.toList = A.toList.drop δ) (k : Nat) : A'[k]? = A[k + δ]? := by
  rw [← Array.getElem?_toList, hdrop, List.getElem?_drop, Array.getElem?_toList, Nat.add_comm]

open Spl.ParseConform in
theorem leadStart_drop (A A' : Array Token) (δ : Nat) (hget : ∀ k, A'[k]? = A[k + δ]?) (hfr : Fresh A δ) :
    ∀ (f i f2 : Nat), i < f → i + δ < f2 → leadStart ⟨A⟩ f2 (i + δ) = leadStart ⟨A'⟩ f i + δ
  | 0, i, _, h1, _ => absurd h1 (Nat.not_lt_zero i)
  | _ + 1, _, 0, _, h2 => absurd h2 (Nat.not_lt_zero _)
  | f + 1, 0, f2 + 1, _, _ => by
    -- at the cut: in front of it stands no token, or one that is no comment
    cases δ with
    | zero => rfl
    | succ d =>
      obtain ⟨t, ht, hk⟩ := hfr.resolve_left (Nat.succ_ne_zero d)
      simp only [leadStart, Nat.zero_add, Nat.add_one_ne_zero, beq_iff_eq, if_false, if_true, ht, hk]
  | f + 1, i + 1, f2 + 1, h1, h2 => by
    have e : i + 1 + δ = i + δ + 1 := Nat.add_right_comm i 1 δ
    simp only [e, leadStart, Nat.add_one_ne_zero, beq_iff_eq, if_false, Nat.add_sub_cancel, ← hget i]
    rcases A'[i]? with _ | t
    · exact e.symm
    by_cases hk : t.kind = Kind.Comment
    · simp only [hk, if_true]
      exact leadStart_drop A A' δ hget hfr f i f2 (by omega) (by omega)
    · simp only [hk, if_false]
      exact e.symm

open Spl.ParseConform in
theorem dropOK (A A' : Array Token) (δ : Nat) (hdrop : A'.toList = A.toList.drop δ) (hfr : Fresh A δ) :
    DropOK ⟨A⟩ ⟨A'⟩ δ := by
  have hlead : ∀ i, lead ⟨A⟩ (i + δ) = lead ⟨A'⟩ i + δ := fun i =>
    leadStart_drop A A' δ (get_drop hdrop) hfr (i + 1) i (i + δ + 1) (by omega) (by omega)
  refine ⟨hlead, fun i => ?_⟩
  rw [docOf_eq A _ _ (hlead i), docOf_eq A' _ _ rfl]
  simp only [cmtTexts, hdrop, List.drop_drop, Nat.add_comm, Nat.add_sub_add_left]

open Spl.ParseConform in
theorem tsFrom_drop (A A' : Array Token) (δ : Nat) (hget : ∀ k, A'[k]? = A[k + δ]?) (p : Nat) :
    shT δ (tsFrom A' p) = tsFrom A (p + δ) := by
  rw [tsFrom_unfold A' p, tsFrom_unfold A (p + δ), ← hget p]
  rcases h : A'[p]? with _ | t
  · rfl
  · have hp : p < A'.size := (Array.getElem?_eq_some_iff.mp h).1
    have ih := tsFrom_drop A A' δ hget (p + 1)
    rw [Nat.add_right_comm] at ih
    rw [apply_ite (shT δ), shT_cons, ih]
termination_by A'.size - p

theorem relInfo_sh (b k : Nat) (i : AstInfo) : relInfo (b + k) (shI k i) = relInfo b i := by
  simp only [relInfo, shI, Nat.add_sub_add_right]

theorem relIdent_sh (b k : Nat) (i : Identifier) : relIdent (b + k) (i.mapInfo (shI k)) = relIdent b i :=
  congrArg (Identifier.mk i.value) (relInfo_sh b k i.info)

theorem relIntLit_sh (b k : Nat) (i : IntLiteral) : relIntLit (b + k) (i.mapInfo (shI k)) = relIntLit b i :=
  congrArg (IntLiteral.mk i.value) (relInfo_sh b k i.info)

theorem var_info_map (f : AstInfo → AstInfo) (v : Var) : (v.mapInfo f).info = f v.info := by
  cases v <;> rfl

theorem expr_info_map (f : AstInfo → AstInfo) (e : Expr) : (e.mapInfo f).info = f e.info := by
  cases e <;> first | rfl | exact var_info_map f _

theorem type_info_map (f : AstInfo → AstInfo) (e : TypeExpr) : (e.mapInfo f).info = f e.info := by
  cases e <;> rfl

theorem stmt_info_map (f : AstInfo → AstInfo) (e : Stmt) : (e.mapInfo f).info = f e.info := by
  cases e <;> rfl

@[simp] theorem shI_lo (k : Nat) (i : AstInfo) : (shI k i).range.lo = i.range.lo + k := rfl

theorem refMap_val {α β} (f : α → β) (r : Ref α) : (Ref.map f r).val = f r.val := rfl

/- Under a `Reference` the base is the start of the referenced node, which moves with the node: the new base and the
   offset `lo + k - (b + k)` are the old ones (`Nat.add_sub_add_right`). -/

mutual
  theorem relVar_sh (k : Nat) : ∀ (b : Nat) (v : Var), relVar (b + k) (v.mapInfo (shI k)) = relVar b v := by
    intro b v
    cases v <;> simp only [Var.mapInfo, relVar, relVar_sh k b, relOptExpr_sh k b, relIdent_sh, relInfo_sh]
  theorem relExpr_sh (k : Nat) : ∀ (b : Nat) (e : Expr), relExpr (b + k) (e.mapInfo (shI k)) = relExpr b e := by
    intro b e
    cases e <;> simp only [Expr.mapInfo, relExpr, relExpr_sh k b, relVar_sh k b, relIntLit_sh, relInfo_sh]
  theorem relOptExpr_sh (k : Nat) : ∀ (b : Nat) (e : OptExpr), relOptExpr (b + k) (e.mapInfo (shI k)) = relOptExpr b e := by
    intro b e
    cases e <;> simp only [OptExpr.mapInfo, relOptExpr, expr_info_map, shI_lo, relExpr_sh k, Nat.add_sub_add_right]
end

theorem relRefExpr_sh (b k : Nat) (r : Ref Expr) :
    relRefExpr (b + k) (Ref.map (Expr.mapInfo (shI k)) r) = relRefExpr b r := by
  simp only [relRefExpr, refMap_val, expr_info_map, shI_lo, relExpr_sh, Nat.add_sub_add_right]

mutual
  theorem relType_sh (k : Nat) : ∀ (b : Nat) (t : TypeExpr), relType (b + k) (t.mapInfo (shI k)) = relType b t := by
    intro b t
    cases t <;> simp only [TypeExpr.mapInfo, relType, relOptType_sh k b, relIdent_sh, relInfo_sh, Option.map_map,
      Function.comp_def, relIntLit_sh]
  theorem relOptType_sh (k : Nat) : ∀ (b : Nat) (t : OptType), relOptType (b + k) (t.mapInfo (shI k)) = relOptType b t := by
    intro b t
    cases t <;> simp only [OptType.mapInfo, relOptType, type_info_map, shI_lo, relType_sh k, Nat.add_sub_add_right]
end

theorem relRefType_sh (b k : Nat) (r : Ref TypeExpr) :
    relRefType (b + k) (Ref.map (TypeExpr.mapInfo (shI k)) r) = relRefType b r := by
  simp only [relRefType, refMap_val, type_info_map, shI_lo, relType_sh, Nat.add_sub_add_right]

mutual
  theorem relStmt_sh (k : Nat) : ∀ (b : Nat) (s : Stmt), relStmt (b + k) (s.mapInfo (shI k)) = relStmt b s := by
    intro b s
    cases s <;> simp only [Stmt.mapInfo, Assignment.mapInfo, CallStmt.mapInfo, relStmt, relOptStmt_sh k b,
      relStmtList_sh k b, relVar_sh, relIdent_sh, relInfo_sh, Option.map_map, List.map_map, Function.comp_def, relRefExpr_sh]
  theorem relOptStmt_sh (k : Nat) : ∀ (b : Nat) (s : OptStmt), relOptStmt (b + k) (s.mapInfo (shI k)) = relOptStmt b s := by
    intro b s
    cases s <;> simp only [OptStmt.mapInfo, relOptStmt, stmt_info_map, shI_lo, relStmt_sh k, Nat.add_sub_add_right]
  theorem relStmtList_sh (k : Nat) : ∀ (b : Nat) (s : StmtList), relStmtList (b + k) (s.mapInfo (shI k)) = relStmtList b s := by
    intro b s
    cases s <;> simp only [StmtList.mapInfo, relStmtList, stmt_info_map, shI_lo, relStmt_sh k, relStmtList_sh k b,
      Nat.add_sub_add_right]
end

theorem relRefStmt_sh (b k : Nat) (r : Ref Stmt) :
    relRefStmt (b + k) (Ref.map (Stmt.mapInfo (shI k)) r) = relRefStmt b r := by
  simp only [relRefStmt, refMap_val, stmt_info_map, shI_lo, relStmt_sh, Nat.add_sub_add_right]

theorem relParam_sh (b k : Nat) (r : Ref ParamDecl) :
    relParam (b + k) (Ref.map (ParamDecl.mapInfo (shI k)) r) = relParam b r := by
  obtain ⟨v, o⟩ := r
  cases v <;>
    simp only [relParam, refMap_val, ParamDecl.mapInfo, ParamDecl.info, shI_lo, Option.map_map, Function.comp_def, relIdent_sh,
      relRefType_sh, relInfo_sh, Nat.add_sub_add_right]

theorem relVarDecl_sh (b k : Nat) (r : Ref VarDecl) :
    relVarDecl (b + k) (Ref.map (VarDecl.mapInfo (shI k)) r) = relVarDecl b r := by
  obtain ⟨v, o⟩ := r
  cases v <;>
    simp only [relVarDecl, refMap_val, VarDecl.mapInfo, VarDecl.info, shI_lo, Option.map_map, Function.comp_def, relIdent_sh,
      relRefType_sh, relInfo_sh, Nat.add_sub_add_right]

theorem relDecl_sh (k : Nat) (d : Ref GlobalDecl) :
    relDecl (Ref.map (GlobalDecl.mapInfo (shI k)) d) = ⟨(relDecl d).val, (relDecl d).offset + k⟩ := by
  obtain ⟨v, o⟩ := d
  cases v <;>
    simp only [relDecl, refMap_val, GlobalDecl.mapInfo, TypeDecl.mapInfo, ProcDecl.mapInfo, GlobalDecl.info, shI_lo,
      Option.map_map, List.map_map, Function.comp_def, relIdent_sh, relRefType_sh, relParam_sh, relVarDecl_sh, relRefStmt_sh,
      relInfo_sh]

open Spl.ParseConform Spl.Parse in
/-- The core of `C05.following_declarations_as_before`, for token arrays: `prefix_conf` in the array cut at `e`
    (where `post` is derived by `decls_sh`), then `relDecl_sh`. -/
theorem tail_as_before (A : Array Token) (e F : Nat) (post : List (Ref GlobalDecl)) (last : Option Nat)
    (hA : Grammar.decls ⟨A⟩ F (tsFrom A e) = some (post, last)) (hfe : Fresh A e)
    (ctx : Ctx) (s : St) (hsuf : ctx.toks.toList.drop s.pos = A.toList.drop e) (hfs : Fresh ctx.toks s.pos)
    (href : s.refPos = 0) (f : Nat) :
    ∃ endB ieof, s.pos ≤ endB ∧ At ctx { s with pos := endB } [⟨ieof, .Eof⟩] ∧
      many0 (refParse (parseGlobalDecl ctx) none) (f + post.length) s =
        prependRes ((post.map relDecl).map (fun r => ⟨r.val, r.offset - e + s.pos⟩))
          (many0 (refParse (parseGlobalDecl ctx) none) f { s with pos := endB }) := by
  -- `D`: the common tail as an array of its own; both arrays read it like `D`, `e` resp. `s.pos` further on
  let D : Array Token := (A.toList.drop e).toArray
  have hB : D.toList = ctx.toks.toList.drop s.pos := hsuf.symm
  have eA := decls_sh (dropOK A D e rfl hfe) F (tsFrom D 0)
  rw [tsFrom_drop A D e (get_drop rfl) 0, Nat.zero_add, hA] at eA
  obtain ⟨⟨postD, lastD⟩, hD, hx⟩ := Option.map_eq_some_iff.mp eA.symm
  obtain ⟨rfl, -⟩ := Prod.mk.inj hx
  have eB := decls_sh (dropOK ctx.toks D s.pos hB hfs) F (tsFrom D 0)
  rw [tsFrom_drop ctx.toks D s.pos (get_drop hB) 0, Nat.zero_add, hD] at eB
  obtain ⟨ieof, hpre⟩ := decls_is_prefix (G ctx) F _ _ _ eB
  obtain ⟨endB, hle, hatE, -, hloop⟩ := prefix_conf ctx hpre s f ⟨hfs, by omega, rfl⟩ href
  refine ⟨endB, ieof, hle, hatE, ?_⟩
  simp only [List.length_map, List.map_map, Function.comp_def, relDecl_sh] at hloop ⊢
  simpa only [Nat.add_sub_cancel] using hloop

open Spl.ParseConform Spl.Parse in
theorem decls_cons (ctx : Ctx) (fd : Nat) (ts : Toks) (d : Ref GlobalDecl) (ds : List (Ref GlobalDecl))
    (last : Option Nat) (hs : Grammar.decls (G ctx) (fd + 1) ts = some (d :: ds, last)) (s : St) (hat : At ctx s ts) :
    d.val.info.range.lo = s.pos ∧
      ∃ e r last', s.pos ≤ e ∧ At ctx { s with pos := e } r ∧ Grammar.decls (G ctx) fd r = some (ds, last') := by
  rcases decls_other _ _ _ _ _ hs with ⟨i, _, h0, _⟩ | ⟨i, r, rfl⟩ | ⟨i, r, rfl⟩
  · cases h0
  case' inr.inl =>
    obtain ⟨td, k, r', ds', last', hsp, hrec, hds, -⟩ := decls_type_flat _ _ _ _ _ _ hs
    obtain ⟨-, hp, hat1⟩ := typeDecl_conf ctx hsp (hat.reref ctx)
    have hlo := congrArg (·.range.lo) (typeDeclSpec_info hsp)
  case' inr.inr =>
    obtain ⟨j, nm, ilp, tylp, r2, ps, irp, tyrp, ilc, tylc, r5, vs, r6, ss, k, tyk, r', ds', last',
      rfl, klp, hps, krp, klc, hvs, hss, kk, hrec, hds, -⟩ := decls_proc_flat _ _ _ _ _ _ hs
    obtain ⟨-, hp, -, hat1, -⟩ := procDecl_conf ctx (hat.reref ctx) klp hps krp klc hvs hss kk
    have hlo := Eq.refl (lead (G ctx) i)
  all_goals
    cases hds
    have hle : s.pos ≤ k + 1 := Nat.le_succ_of_le (Nat.le_of_lt (Nat.lt_of_le_of_lt hp.1 hp.2))
    exact ⟨hlo.trans (hat.head ctx).2.2.2, k + 1, r', last', hle, ⟨hat1.fresh, Nat.le_trans hat.ref hle, hat1.toks⟩, hrec⟩

open Spl.ParseConform Spl.Parse in
theorem decls_split (ctx : Ctx) : ∀ (pre : List (Ref GlobalDecl)) (fd : Nat) (ts : Toks) (post : List (Ref GlobalDecl))
    (last : Option Nat), Grammar.decls (G ctx) fd ts = some (pre ++ post, last) → ∀ (s : St), At ctx s ts →
    ∃ fd' e last', s.pos ≤ e ∧ At ctx { s with pos := e } (tsFrom ctx.toks e) ∧
      Grammar.decls (G ctx) fd' (tsFrom ctx.toks e) = some (post, last')
  | [], fd, _, _, last, hs, s, hat =>
    ⟨fd, s.pos, last, Nat.le_refl _, ⟨hat.fresh, hat.ref, rfl⟩, hat.toks ▸ hs⟩
  | d :: pre, fd + 1, ts, post, last, hs, s, hat =>
    let ⟨_, _, r, l', hle, hatE, hrec⟩ := decls_cons ctx fd ts d (pre ++ post) last hs s hat
    let ⟨fd', e', l'', hle', hatE', hd⟩ := decls_split ctx pre fd r post l' hrec _ hatE
    ⟨fd', e', l'', Nat.le_trans hle hle', hatE', hd⟩

end Spl.Shift
