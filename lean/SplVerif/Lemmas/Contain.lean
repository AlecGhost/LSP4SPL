/-
  Lemmas for C05: the undamaged derivation cut at a declaration boundary, positions carried over between two
  token sequences with a common suffix, the iteration of the declaration loop that starts in front of a
  declaration keyword, and that a loop standing at the cut returns the undamaged declarations and nothing more
  (it stops at the end-of-file token).
-/
import SplVerif.Lemmas.FreshEnd
import SplVerif.Lemmas.ParseClean
import SplVerif.Lemmas.Shift

namespace Spl.Contain
open Spl Spl.Parse Spl.ParseConform Spl.FreshEnd

theorem parseAbs_decls {A : List Token} {progA : Program} (h : Grammar.parseAbs A = some progA) :
    ∃ last, Grammar.decls ⟨A.toArray⟩ ((tsFrom A.toArray 0).length + 1) (tsFrom A.toArray 0) = some (progA.decls, last) :=
  let ⟨_, last, hd, e⟩ := parseAbs_some h
  ⟨last, e ▸ hd⟩

theorem parseAbs_cut {A : List Token} {progA : Program} (hA : Grammar.parseAbs A = some progA)
    {pre post : List (Ref GlobalDecl)} (hsp : progA.decls = pre ++ post) :
    ∃ fd e last, Fresh A.toArray e ∧ Grammar.decls ⟨A.toArray⟩ fd (tsFrom A.toArray e) = some (post, last) ∧
      ∀ d rest, post = d :: rest → d.val.info.range.lo = e ∧
        ∃ q t, e ≤ q ∧ Grammar.lead ⟨A.toArray⟩ q = e ∧ A[q]? = some t ∧ (t.kind = Kind.Proc ∨ t.kind = Kind.Type) := by
  obtain ⟨last, hd⟩ := parseAbs_decls hA
  rw [hsp] at hd
  obtain ⟨fd, e, last', -, hat, hd'⟩ :=
    Shift.decls_split ⟨A.toArray, ⟨0, 0, 0⟩⟩ pre _ _ post last hd { pos := 0 } ⟨Or.inl rfl, Nat.le_refl _, rfl⟩
  refine ⟨fd, e, last', hat.fresh, hd', fun d rest hp => ?_⟩
  subst hp
  cases fd with
  | zero => cases hd'
  | succ fd =>
    refine ⟨(Shift.decls_cons _ fd _ d rest last' hd' _ hat).1, ?_⟩
    rcases decls_other _ _ _ _ _ hd' with ⟨i, _, h0, _⟩ | ⟨i, r, hts⟩ | ⟨i, r, hts⟩
    · cases h0
    all_goals
      rw [hts] at hat
      obtain ⟨hN, ⟨t, ht, hty⟩, -, hl⟩ := hat.head
      exact ⟨i, t, hN.le, hl, by simpa using ht, by simp [Token.kind, hty, TokenType.kind]⟩

theorem get_of_drop {α} {A B : List α} {a b : Nat} (h : B.drop b = A.drop a) (k : Nat) : B[b + k]? = A[a + k]? := by
  rw [← List.getElem?_drop, h, List.getElem?_drop]

theorem fresh_suffix {A B : List Token} {a b : Nat} (h : B.drop b = A.drop a) (hf : Fresh A.toArray (a + 1)) :
    Fresh B.toArray (b + 1) := by
  obtain ⟨t, ht, hk⟩ := hf.resolve_left (Nat.succ_ne_zero a)
  exact Or.inr ⟨t, by simpa using (get_of_drop h 0).trans (by simpa using ht), hk⟩

/-- the comment runs in front of corresponding tokens start at corresponding positions (`Shift.dropOK`, for both
    sequences against the common suffix) -/
theorem lead_suffix {A B : List Token} {a b : Nat} (h : B.drop b = A.drop a) (ha : Fresh A.toArray a)
    (hb : Fresh B.toArray b) (k : Nat) :
    Grammar.lead ⟨B.toArray⟩ (k + b) + a = Grammar.lead ⟨A.toArray⟩ (k + a) + b := by
  rw [(Shift.dropOK A.toArray (A.drop a).toArray a rfl ha).lead, (Shift.dropOK B.toArray (A.drop a).toArray b h.symm hb).lead]
  omega

theorem drop_stretch {α} (X M Y : List α) (n : Nat) : (X ++ M ++ Y).drop (X.length + M.length + n) = Y.drop n := by
  rw [← List.length_append, List.drop_length_add_append]

theorem stretch_suffix (X M0 M Y : List Token) {p : Nat} (h : X.length + M0.length < p) :
    (X ++ M ++ Y).drop (p - M0.length + M.length) = (X ++ M0 ++ Y).drop p ∧
      (Fresh (X ++ M0 ++ Y).toArray p → Fresh (X ++ M ++ Y).toArray (p - M0.length + M.length)) := by
  obtain ⟨n, rfl⟩ := Nat.exists_eq_add_of_lt h
  rw [show X.length + M0.length + n + 1 - M0.length + M.length = X.length + M.length + n + 1 by omega]
  have hd : ∀ k, (X ++ M ++ Y).drop (X.length + M.length + k) = (X ++ M0 ++ Y).drop (X.length + M0.length + k) :=
    fun k => by rw [drop_stretch, drop_stretch]
  exact ⟨hd (n + 1), fresh_suffix (hd n)⟩

theorem loop_at_eof (ctx : Ctx) (s : St) (i : Nat) (hat : At ctx s [⟨i, .Eof⟩]) (f : Nat) :
    many0 (refParse (parseGlobalDecl ctx) none) (f + 1) s = .ok s [] := by
  obtain ⟨k, s', hr⟩ := refParse_err _ s (globalDecl_fail_eof ctx (hat.reref ctx)) hat.ref
  rw [many0_succ, hr]

/-- Where a declaration `d` of the parse of `B` starts in the run of comments in front of the keyword token `q`, an
    iteration of the loop starts at the `lead` of `q`: the iterations begin directly behind a token (`loop_split`), so
    the one that produces `d` begins where the run begins.  `d` serves only to find that iteration; the conclusion
    says that the loop returns SOME tail of the declarations from there, which is all `tail_exact` needs. -/
theorem iteration_at {B : List Token} {progB : Program} (hB : Parse.parse B = .ok progB) {d : Ref GlobalDecl}
    (hd : d ∈ progB.decls) {q : Nat} {t : Token} (ht : B[q]? = some t) (hk : t.kind = Kind.Proc ∨ t.kind = Kind.Type)
    (hoff : d.offset ≤ q) (hcd : ∀ i t, d.offset ≤ i → i < q → B[i]? = some t → t.kind = Kind.Comment) :
    ∃ i f s s', s.pos = Grammar.lead ⟨B.toArray⟩ q ∧ s.refPos = 0 ∧
      many0 (refParse (parseGlobalDecl ⟨B.toArray, ⟨0, 0, B.length⟩⟩) none) f s = .ok s' (progB.decls.drop i) := by
  obtain ⟨s', hr⟩ := parse_ok_iff.mp hB
  obtain ⟨sE, hloop⟩ := program_loop s' progB hr
  obtain ⟨i, hi, rfl⟩ := List.getElem_of_mem hd
  obtain ⟨f, s, hs, hg, hrp, hoffi⟩ := loop_split progB.decls _ _ _ hloop (Or.inl (Or.inl rfl)) rfl i hi
  rw [hoffi] at hoff hcd
  have hq : q < B.length := (List.getElem?_eq_some_iff.mp ht).1
  have hN : Next B.toArray s.pos q :=
    ⟨hoff, fun k h1 h2 => have hk := Nat.lt_trans h2 hq
      ⟨B[k], by simp [hk], hcd k _ h1 h2 (List.getElem?_eq_getElem hk)⟩,
     t, by simpa using ht, by rcases hk with h | h <;> simp [h]⟩
  have hfs : Fresh B.toArray s.pos := hg.resolve_right (Nat.not_le_of_lt (by simpa using Nat.lt_of_le_of_lt hoff hq))
  exact ⟨i, f, s, _, (lead_next _ _ _ hfs hN).symm, hrp, hs⟩

/-- A loop that stands where the undamaged declarations `post` go on returns exactly them: behind them stands the
    end-of-file token. -/
theorem tail_exact {A : Array Token} {e F : Nat} {post : List (Ref GlobalDecl)} {last : Option Nat}
    (hA : Grammar.decls ⟨A⟩ F (tsFrom A e) = some (post, last)) (hfe : Fresh A e) {ctx : Ctx} {s s' : St}
    (hsuf : ctx.toks.toList.drop s.pos = A.toList.drop e) (hfs : Fresh ctx.toks s.pos) (href : s.refPos = 0)
    {f : Nat} {l : List (Ref GlobalDecl)} (h : many0 (refParse (parseGlobalDecl ctx) none) f s = .ok s' l) :
    l = (post.map Grammar.relDecl).map (fun r => ⟨r.val, r.offset - e + s.pos⟩) := by
  obtain ⟨endB, ieof, -, hatE, hres⟩ := Shift.tail_as_before A e F post last hA hfe ctx s hsuf hfs href (f + 1)
  rw [Nat.add_assoc, many0_mono' _ _ _ _ _ h, loop_at_eof ctx _ ieof hatE f] at hres
  cases hres
  exact List.append_nil _

theorem relDecl_offset (d : Ref GlobalDecl) : (Grammar.relDecl d).offset = d.val.info.range.lo := by
  obtain ⟨v, o⟩ := d
  cases v <;> rfl

end Spl.Contain
