/-
  Lemmas for C02: a fresh parse (`this = none` everywhere) never panics, never runs out of fuel
  and never leaves the token array — for every token array.

  `Safe p s`: running parser `p` in state `s` does not panic; a result state (success or error)
  lies `Post`-behind `s`: at or behind it, inside the array, under the same reference position, not behind the
  final `Eof` (`Tight`) and with no `proc` / `type` keyword consumed on the way (`Clean`); errors are of the
  plain kind (`affected = false`, the incremental kind is only produced with `this = some _`).

  This file has the loops (`many0`, `ignore_until0`, the operator loops) for parsers that are `Safe`, the judgment
  `Walks` with one rule per combinator, and the token level: token parsers, look-ahead sets and recoveries as `Runs`.
  The traversal of the parsers is in `Lemmas/ParserInv`.
-/
import SplVerif.Lemmas.ParserLogic
import SplVerif.Lemmas.ParserTables

namespace Spl.Total
open Spl Spl.Parse

variable (ctx : Ctx)

def WF (s : St) : Prop := s.refPos ≤ s.pos ∧ s.pos ≤ ctx.toks.size

/-- the token array ends with its only `Eof` token (every output of the lexer does) -/
structure EofLast : Prop where
  last : ∃ t, ctx.toks[ctx.toks.size - 1]? = some t ∧ t.kind = Kind.Eof
  only : ∀ i t, ctx.toks[i]? = some t → t.kind = Kind.Eof → i + 1 = ctx.toks.size

/-- in such an array: a parser that starts in front of the final `Eof` does not get behind it -/
def Tight (s s' : St) : Prop := EofLast ctx → s.pos < ctx.toks.size → s'.pos < ctx.toks.size

/-- no `proc` / `type` keyword among the tokens consumed between `s` and `s'` -/
def Clean (s s' : St) : Prop :=
  ∀ i t, s.pos ≤ i → i < s'.pos → ctx.toks[i]? = some t → t.kind ≠ Kind.Proc ∧ t.kind ≠ Kind.Type

/-- what a result state `s'` keeps of the start `s`: at or behind it, inside the array, the same reference position,
    the final `Eof` not consumed.  The form for the declaration level, where the declaration's own keyword is consumed -/
def PostK (s s' : St) : Prop := s.pos ≤ s'.pos ∧ s'.pos ≤ ctx.toks.size ∧ s'.refPos = s.refPos ∧ Tight ctx s s'

/-- `PostK`, and no `proc` / `type` keyword consumed -/
def Post (s s' : St) : Prop :=
  s.pos ≤ s'.pos ∧ s'.pos ≤ ctx.toks.size ∧ s'.refPos = s.refPos ∧ Tight ctx s s' ∧ Clean ctx s s'

/-- token kinds other than the final `Eof`, the two declaration keywords and comments -/
def Plain (k : Kind) : Prop := k ≠ Kind.Eof ∧ k ≠ Kind.Proc ∧ k ≠ Kind.Type ∧ k ≠ Kind.Comment

instance (k : Kind) : Decidable (Plain k) := by unfold Plain; infer_instance

structure Safe {α} (p : P α) (s : St) : Prop where
  np : ∀ e, p s ≠ .panic e
  ok : ∀ s' a, p s = .ok s' a → Post ctx s s'
  er : ∀ k s', p s = .err k s' → k = false ∧ Post ctx s s'

/-- declaration level: a declaration consumes its own keyword -/
structure SafeK {α} (p : P α) (s : St) : Prop where
  np : ∀ e, p s ≠ .panic e
  ok : ∀ s' a, p s = .ok s' a → PostK ctx s s'
  er : ∀ k s', p s = .err k s' → k = false ∧ PostK ctx s s'

def Ends {α} (Ro Re : St → Prop) (r : Res α) : Prop :=
  r.Sat (fun s' _ => Ro s') (fun k s' => k = false ∧ Re s') False

/-- the parsers that may consume the final `Eof` when they succeed (`eof`, the look-ahead sets) are only run under
    `peek` or as the very last parser: only their failures matter -/
def SafeW {α} (p : P α) (s : St) : Prop := Ends (fun _ => True) (Post ctx s) (p s)

theorem Safe.ends {α} {p : P α} {s : St} (h : Safe ctx p s) : Ends (Post ctx s) (Post ctx s) (p s) :=
  (Res.sat_iff _).2 ⟨h.np, h.ok, h.er⟩

theorem Ends.safe {α} {p : P α} {s : St} (h : Ends (Post ctx s) (Post ctx s) (p s)) : Safe ctx p s :=
  let ⟨a, b, c⟩ := (Res.sat_iff _).1 h; ⟨a, b, c⟩

theorem Ends.weaken {α} {Ro Re Ro' Re' : St → Prop} {r : Res α} (h : Ends Ro Re r) (ho : ∀ s', Ro s' → Ro' s')
    (he : ∀ s', Re s' → Re' s') : Ends Ro' Re' r :=
  h.imp (fun s' _ _ => ho s') (fun _ s' _ x => ⟨x.1, he s' x.2⟩) id

theorem Post.k {s s' : St} (h : Post ctx s s') : PostK ctx s s' := ⟨h.1, h.2.1, h.2.2.1, h.2.2.2.1⟩

theorem PostK.refl {s : St} (hw : WF ctx s) : PostK ctx s s := ⟨Nat.le_refl _, hw.2, rfl, fun _ h => h⟩

theorem PostK.trans {a b c : St} (h1 : PostK ctx a b) (h2 : PostK ctx b c) : PostK ctx a c :=
  ⟨Nat.le_trans h1.1 h2.1, h2.2.1, h2.2.2.1.trans h1.2.2.1, fun he hb => h2.2.2.2 he (h1.2.2.2 he hb)⟩

theorem PostK.wf {s s' : St} (h : PostK ctx s s') (hw : WF ctx s) : WF ctx s' :=
  ⟨by rw [h.2.2.1]; exact Nat.le_trans hw.1 h.1, h.2.1⟩

theorem Clean.trans {a b c : St} (h1 : Clean ctx a b) (h2 : Clean ctx b c) : Clean ctx a c := by
  intro i t hi1 hi2 ht
  by_cases hb : i < b.pos
  · exact h1 i t hi1 hb ht
  · exact h2 i t (by omega) hi2 ht

theorem Post.refl {s : St} (hw : WF ctx s) : Post ctx s s :=
  ⟨Nat.le_refl _, hw.2, rfl, fun _ h => h, fun i t h1 h2 => by omega⟩

theorem Post.trans {a b c : St} (h1 : Post ctx a b) (h2 : Post ctx b c) : Post ctx a c :=
  ⟨Nat.le_trans h1.1 h2.1, h2.2.1, h2.2.2.1.trans h1.2.2.1, fun he hb => h2.2.2.2.1 he (h1.2.2.2.1 he hb),
    Clean.trans ctx h1.2.2.2.2 h2.2.2.2.2⟩

theorem Post.wf {s s' : St} (h : Post ctx s s') (hw : WF ctx s) : WF ctx s' := h.k.wf ctx hw

theorem Safe.wf_er {α} {p : P α} {s s' : St} {k : Bool} (h : Safe ctx p s) (hw : WF ctx s) (e : p s = .err k s') : WF ctx s' :=
  (h.er k s' e).2.wf ctx hw

def Lands (s : St) {α} (r : Res α) : Prop := Ends (Post ctx s) (Post ctx s) r

theorem Lands.from {α} {s0 s1 : St} {r : Res α} (h : Lands ctx s1 r) (h0 : Post ctx s0 s1) : Lands ctx s0 r :=
  h.weaken (fun _ => h0.trans ctx) (fun _ => h0.trans ctx)

theorem bind_safe {α β} {p : P α} {f : α → P β} {s : St} (hp : Safe ctx p s)
    (hf : ∀ s' a, p s = .ok s' a → Safe ctx (f a) s') : Safe ctx (Parse.bind p f) s :=
  Ends.safe ctx ((sat_bind p f s).2 (hp.ends.imp
    (fun s' a e h => (hf s' a e).ends.weaken (fun _ => h.trans ctx) (fun _ => h.trans ctx)) (fun _ _ _ h => h) id))

/-- `many0`: enough fuel for one round per remaining token and one more -/
theorem many0_lands {α} (p : P α) : ∀ (fuel : Nat) (s : St), WF ctx s → ctx.toks.size - s.pos < fuel →
    (∀ s', WF ctx s' → s.pos ≤ s'.pos → s'.refPos = s.refPos → Lands ctx s' (p s')) → Lands ctx s (many0 p fuel s)
  | 0, s, _, hf, _ => by omega
  | fuel + 1, s, hw, hf, hp => by
    refine (sat_many0 p fuel s).2 ((hp s hw (Nat.le_refl _) rfl).imp (fun s' a _ h => ?_) (fun _ _ _ _ => Post.refl ctx hw) id)
    split
    · exact ⟨rfl, Post.refl ctx hw⟩
    · exact (many0_lands p fuel s' (h.wf ctx hw) (by have := h.1; have := h.2.1; omega)
        (fun s2 w2 l2 r2 => hp s2 w2 (Nat.le_trans h.1 l2) (r2.trans h.2.2.1))).from ctx h

theorem many0_safe {α} (p : P α) (r : Nat) : ∀ (fuel : Nat) (s : St), WF ctx s → ctx.toks.size - s.pos < fuel → s.refPos = r →
    (∀ s', WF ctx s' → s.pos ≤ s'.pos → s'.refPos = r → Safe ctx p s') → Safe ctx (many0 p fuel) s :=
  fun fuel s hw hf hr hp =>
    Ends.safe ctx (many0_lands ctx p fuel s hw hf (fun s' w l r' => (hp s' w l (r'.trans hr)).ends))

theorem take1_ok {s s' : St} {t : Token} (h : take1 ctx s = .ok s' t) :
    s' = { s with pos := s.pos + 1 } ∧ ctx.toks[s.pos]? = some t := by
  unfold take1 at h
  split at h
  · next ht => cases h; exact ⟨rfl, ht⟩
  · cases h

theorem EofLast.at_last (he : EofLast ctx) {i : Nat} {t : Token} (ht : ctx.toks[i]? = some t) (hi : i + 1 = ctx.toks.size) :
    t.kind = Kind.Eof := by
  obtain ⟨tl, htl, hkl⟩ := he.last
  rw [show ctx.toks.size - 1 = i by omega, ht] at htl
  cases htl
  exact hkl

/-- one token further on, over a token that is not the final `Eof` -/
theorem step_postK {s : St} {t : Token} (ht : ctx.toks[s.pos]? = some t) (hE : EofLast ctx → s.pos + 1 ≠ ctx.toks.size) :
    PostK ctx s { s with pos := s.pos + 1 } :=
  ⟨Nat.le_succ _, (Array.getElem?_eq_some_iff.mp ht).1, rfl, fun he _ => by
    have := hE he; have := (Array.getElem?_eq_some_iff.mp ht).1; show s.pos + 1 < _; omega⟩

/-- … nor a declaration keyword -/
theorem step_post {s : St} {t : Token} (ht : ctx.toks[s.pos]? = some t) (hE : EofLast ctx → s.pos + 1 ≠ ctx.toks.size)
    (hK : t.kind ≠ Kind.Proc ∧ t.kind ≠ Kind.Type) : Post ctx s { s with pos := s.pos + 1 } := by
  have hk := step_postK ctx ht hE
  refine ⟨hk.1, hk.2.1, hk.2.2.1, hk.2.2.2, fun i t' hi1 hi2 ht' => ?_⟩
  obtain rfl : i = s.pos := by have : i < s.pos + 1 := hi2; omega
  rw [ht] at ht'
  cases ht'
  exact hK

theorem kind_comment {t : Token} {c : List Char} (h : t.ty = .Comment c) : t.kind = Kind.Comment := by
  rw [Token.kind, h]; rfl

def Comments (a b : Nat) : Prop := ∀ i t, a ≤ i → i < b → ctx.toks[i]? = some t → t.kind = Kind.Comment

theorem skips_comments {p j : Nat} (h : Skips ctx p j) : Comments ctx p j := by
  intro i t a b ht
  obtain ⟨t', c, ht', hty⟩ := h.cmts i a b
  rw [ht] at ht'
  cases ht'
  exact kind_comment hty

/-- the comments in front of a token are neither the final `Eof` nor declaration keywords -/
theorem skips_post {s : St} {j : Nat} (hw : WF ctx s) (h : Skips ctx s.pos j) : Post ctx s { s with pos := j } := by
  have hc := skips_comments ctx h
  have hle := h.le_size hw.2
  refine ⟨h.le, hle, rfl, fun he hlt => Nat.lt_of_le_of_ne hle (fun e => ?_), fun i t a b ht => by rw [hc i t a b ht]; decide⟩
  obtain ⟨t, ht, hk⟩ := he.last
  have e : j = ctx.toks.size := e
  have := hc (ctx.toks.size - 1) t (by omega) (by omega) ht
  rw [hk] at this
  cases this

theorem loopFuel_ok (s : St) (hw : WF ctx s) : ctx.toks.size - s.pos < loopFuel ctx := by
  have := hw.2
  simp only [loopFuel]
  omega

theorem docComments_eq {s : St} {j : Nat} (hw : WF ctx s) (h : Skips ctx s.pos j) :
    ∃ doc, docComments ctx s = .ok { s with pos := j } doc := by
  obtain ⟨doc, e⟩ := comments_eq (loopFuel ctx) s h
  exact ⟨doc, e.trans (if_neg (by have := h.le_size hw.2; show ¬ ctx.toks.size + 2 + s.pos ≤ j; omega))⟩

theorem tk_eq {s : St} {j : Nat} (hw : WF ctx s) (h : Skips ctx s.pos j) (k : Kind) : tk ctx k s =
    match ctx.toks[j]? with
    | some t => if t.ty.kind == k then .ok { s with pos := j + 1 } t else .err false s
    | none => .err false { s with pos := j } :=
  (tag_eq h (loopFuel ctx) (fun ty => ty.kind == k)).trans
    (if_neg (by have := h.le_size hw.2; show ¬ ctx.toks.size + 2 + s.pos ≤ j; omega))

/-- the token parser in terms of the first position `j` where no comment stands -/
theorem tk_sat_at {s : St} {j : Nat} (hw : WF ctx s) (hj : Skips ctx s.pos j) (k : Kind) : (tk ctx k s).Sat
    (fun s' t => ctx.toks[j]? = some t ∧ t.kind = k ∧ s' = { s with pos := j + 1 })
    (fun b x => b = false ∧ Post ctx s x ∧ ∀ t, ctx.toks[j]? = some t → t.kind ≠ k) False := by
  rw [tk_eq ctx hw hj]
  cases ht : ctx.toks[j]? with
  | none => exact ⟨rfl, skips_post ctx hw hj, nofun⟩
  | some t =>
    dsimp only
    split
    · next hp => exact ⟨rfl, eq_of_beq hp, rfl⟩
    · next hp => exact ⟨rfl, Post.refl ctx hw, fun _ e hk => hp (beq_iff_eq.2 (Option.some.inj e ▸ hk))⟩

theorem tk_sat (k : Kind) (s : St) (hw : WF ctx s) :
    (tk ctx k s).Sat (fun s' t => ∃ j, Skips ctx s.pos j ∧ ctx.toks[j]? = some t ∧ t.kind = k ∧ s' = { s with pos := j + 1 })
      (fun b x => b = false ∧ Post ctx s x) False :=
  let ⟨j, hj⟩ := skips_exists ctx s.pos
  (tk_sat_at ctx hw hj k).imp (fun _ _ _ x => ⟨j, hj, x⟩) (fun _ _ _ x => ⟨x.1, x.2.1⟩) id

theorem tk_safeW (k : Kind) (s : St) (hw : WF ctx s) : SafeW ctx (tk ctx k) s :=
  (tk_sat ctx k s hw).imp (fun _ _ _ _ => trivial) (fun _ _ _ x => x) id

/-- a successful run consumes at least one token -/
def Strict {α} (p : P α) (s : St) : Prop := ∀ s' a, p s = .ok s' a → s.pos < s'.pos

/-- the parser does not fail (it succeeds or — excluded elsewhere — panics) -/
def NoErr {α} (p : P α) (s : St) : Prop := ∀ k x, p s ≠ .err k x

theorem noerr_iff {α} {p : P α} {s : St} : NoErr p s ↔ (p s).Sat (fun _ _ => True) (fun _ _ => False) True :=
  ⟨fun h => (Res.sat_iff _).2 ⟨fun _ _ => trivial, fun _ _ _ => trivial, h⟩, fun h => ((Res.sat_iff _).1 h).2.2⟩

/-- the token parser for the kind of the token it stands in front of does not fail -/
theorem tk_here (s : St) (hw : WF ctx s) (t : Token) (ht : ctx.toks[s.pos]? = some t) (hc : t.kind ≠ Kind.Comment) :
    NoErr (tk ctx t.kind) s := by
  have hj : Skips ctx s.pos s.pos :=
    ⟨Nat.le_refl _, fun i a b => by omega, fun t' c ht' hty => by rw [ht] at ht'; cases ht'; exact hc (kind_comment hty)⟩
  exact fun _ _ e => ((tk_sat_at ctx hw hj t.kind).of_err e).2.2 t ht rfl

/-- a loop whose element always consumes something never stops with the no-progress error -/
theorem many0_noerr {α} (p : P α) (r : Nat) : ∀ (fuel : Nat) (s : St), WF ctx s → s.refPos = r →
    (∀ s', WF ctx s' → s.pos ≤ s'.pos → s'.refPos = r → SafeK ctx p s' ∧ Strict p s') → NoErr (many0 p fuel) s
  | 0, s, _, _, _ => by intro k x h; cases h
  | fuel + 1, s, hw, hr, hp => by
    obtain ⟨h0, hs0⟩ := hp s hw (Nat.le_refl _) hr
    refine noerr_iff.2 ((sat_many0 p fuel s).2 ((Res.sat_iff _).2 ⟨fun _ _ => trivial, fun s1 a e => ?_, fun _ _ _ => trivial⟩))
    have h := h0.ok s1 a e
    have hlt := hs0 s1 a e
    rw [if_neg (by omega)]
    exact noerr_iff.1 (many0_noerr p r fuel s1 (h.wf ctx hw) (by rw [h.2.2.1, hr]) (fun s' w l rr => hp s' w (by omega) rr))

theorem many0_stops {α} (p : P α) : ∀ (fuel : Nat) (s : St),
    (many0 p fuel s).Sat (fun s' _ => ∃ k x, p s' = .err k x) (fun _ _ => True) True
  | 0, _ => trivial
  | fuel + 1, s => (sat_many0 p fuel s).2 ((Res.sat_true _).imp (fun s' a _ _ => by
      split
      · trivial
      · exact many0_stops p fuel s') (fun k x e _ => ⟨k, x, e⟩) id)

theorem many0_stop {α} (p : P α) : ∀ (fuel : Nat) (s s' : St) (l : List α), many0 p fuel s = .ok s' l →
    ∃ k x, p s' = .err k x :=
  fun fuel s _ _ h => (many0_stops p fuel s).of_ok h

theorem allConsuming_safe {α} {p : P α} {s : St} (hp : Safe ctx p s) : Safe ctx (allConsuming ctx p) s :=
  Ends.safe ctx ((sat_allConsuming ctx p s).2 (hp.ends.imp
    (fun s' _ _ h => by split; exact h; exact ⟨rfl, h⟩)
    (fun _ _ _ h => h) id))

theorem wf_reref {s : St} (hw : WF ctx s) : WF ctx { s with refPos := s.pos } := ⟨Nat.le_refl _, hw.2⟩

/-- a pattern that does not fail in front of the final `Eof` (every synchronisation set accepts `Eof`) -/
def AtEof (pattern : P Unit) : Prop :=
  EofLast ctx → ∀ s', WF ctx s' → s'.pos + 1 = ctx.toks.size → ∀ k x, pattern s' ≠ .err k x

/-- a pattern that does not fail in front of a declaration keyword (every synchronisation set accepts them) -/
def AtKw (pattern : P Unit) : Prop :=
  ∀ s' t, WF ctx s' → ctx.toks[s'.pos]? = some t → (t.kind = Kind.Proc ∨ t.kind = Kind.Type) → ∀ k x, pattern s' ≠ .err k x

/-- the token a recovery skips: its pattern has failed in front of it, so it is neither the final `Eof` nor a
    declaration keyword -/
theorem skip_post {pattern : P Unit} (hE : AtEof ctx pattern) (hK : AtKw ctx pattern) {s x : St} {k : Bool} {t : Token}
    (hw : WF ctx s) (h : pattern s = .err k x) (ht : ctx.toks[s.pos]? = some t) : Post ctx s { s with pos := s.pos + 1 } :=
  step_post ctx ht (fun he hq => hE he s hw hq k x h)
    ⟨fun hk => hK s t hw ht (Or.inl hk) k x h, fun hk => hK s t hw ht (Or.inr hk) k x h⟩

/-- `ignore_until0`: the pattern is tried at every position up to the end of the array -/
theorem ignoreUntil0_lands (pattern : P Unit) (hE : AtEof ctx pattern) (hK : AtKw ctx pattern) : ∀ (fuel start : Nat) (s : St), WF ctx s →
    ctx.toks.size - s.pos < fuel → (∀ s', WF ctx s' → s.pos ≤ s'.pos → s'.refPos = s.refPos → Lands ctx s' (pattern s')) →
    Lands ctx s (ignoreUntil0 ctx pattern fuel start s)
  | 0, _, s, _, hf, _ => by omega
  | fuel + 1, start, s, hw, hf, hp => by
    refine (sat_ignoreUntil0 ctx pattern fuel start s).2 ((hp s hw (Nat.le_refl _) rfl).imp (fun _ _ _ x => x) (fun k x h _ => ?_) id)
    split
    · next hlt =>
      have hp1 := skip_post ctx hE hK hw h (Array.getElem?_eq_getElem hlt)
      exact (ignoreUntil0_lands pattern hE hK fuel start _ (hp1.wf ctx hw) (by show _ - (s.pos + 1) < _; omega)
        (fun s' w l rr => hp s' w (Nat.le_of_succ_le l) rr)).from ctx hp1
    · exact ⟨rfl, Post.refl ctx hw⟩

theorem ignoreUntil0_safe (pattern : P Unit) (hE : AtEof ctx pattern) (hK : AtKw ctx pattern) (r : Nat) : ∀ (fuel start : Nat) (s0 s : St), WF ctx s →
    ctx.toks.size - s.pos < fuel → s.refPos = r → Post ctx s0 s →
    (∀ s', WF ctx s' → s.pos ≤ s'.pos → s'.refPos = r → Safe ctx pattern s') →
    (∀ e, ignoreUntil0 ctx pattern fuel start s ≠ .panic e) ∧
    (∀ s' a, ignoreUntil0 ctx pattern fuel start s = .ok s' a → Post ctx s0 s') ∧
    (∀ k s', ignoreUntil0 ctx pattern fuel start s = .err k s' → k = false ∧ Post ctx s0 s') :=
  fun fuel start _ s hw hf hr h0 hp => (Res.sat_iff _).1
    ((ignoreUntil0_lands ctx pattern hE hK fuel start s hw hf (fun s' w l rr => (hp s' w l (rr.trans hr)).ends)).from ctx h0)

theorem many_none {α} (range : α → Range) (parseT : Option α → P α) (fuel : Nat) (s : St) :
    many ctx range parseT fuel none s = many0 (refParse parseT none) fuel s := by
  simp only [many, Option.getD, manyOld, List.nil_append]
  cases many0 (refParse parseT none) fuel s <;> rfl

theorem affected_none {α} (ops : NodeOps α) (inner : P α) : affected ctx ops none inner = inner := rfl

section
variable {ctx}

def InFront (ctx : Ctx) (s : St) : Prop := EofLast ctx ∧ s.pos < ctx.toks.size

theorem PostK.inFront {s s' : St} (h : PostK ctx s s') (hi : InFront ctx s) : InFront ctx s' := ⟨hi.1, h.2.2.2 hi.1 hi.2⟩

theorem Post.reref {s s' : St} (h : Post ctx { s with refPos := s.pos } s') : Post ctx s { s' with refPos := s.refPos } :=
  ⟨h.1, h.2.1, rfl, h.2.2.2⟩

abbrev anywhere : Nat → Prop := fun _ => True
abbrev anything {α : Type} : α → Prop := fun _ => True

/-- the states in which the run of a parser is accounted for: well-formed, fewer than `n` tokens left (`w = False`
    switches the account off) -/
def Fit (ctx : Ctx) (w : Prop) (n : Nat) (s : St) : Prop := w ∧ WF ctx s ∧ ctx.toks.size - s.pos < n

/-- the one judgment of the fresh parse.  Started at a position in `S`, a success of `p` stops at a position in `G` with a
    value in `Q`, an error stops at a position in `E`: that holds in every state, since the combinators change the state
    only in `errBuf`, `refPos` and `incRefs`.  From a state that fits there is no panic, a result lies `Post`-behind the
    start, a success at least `d` tokens further on, errors are plain and, in front of the final `Eof`, only possible
    with `fl`.  `n` pays for the recursive descent (a continuation behind a consumed token gets `n - 1`), `d` is what
    a loop needs of its element. -/
def Walks (ctx : Ctx) (w : Prop) (n d : Nat) (fl : Prop) (S G E : Nat → Prop) {α} (p : P α) (Q : α → Prop) : Prop :=
  ∀ s, S s.pos → (p s).Sat
    (fun s' a => G s'.pos ∧ Q a ∧ (Fit ctx w n s → Post ctx s s' ∧ s.pos + d ≤ s'.pos))
    (fun k s' => E s'.pos ∧ (Fit ctx w n s → k = false ∧ Post ctx s s' ∧ (InFront ctx s → fl)))
    (¬ Fit ctx w n s)

/-- the part about the states that fit -/
abbrev Runs (ctx : Ctx) (n d : Nat) (fl : Prop) {α} (p : P α) : Prop :=
  Walks ctx True n d fl anywhere anywhere anywhere p anything

/-- the part about positions and values -/
abbrev Stops (ctx : Ctx) (S G E : Nat → Prop) {α} (p : P α) (Q : α → Prop) : Prop := Walks ctx False 0 0 True S G E p Q

variable {w : Prop} {n d : Nat} {fl : Prop} {S G E : Nat → Prop} {α β : Type} {p : P α} {Q : α → Prop}

theorem Fit.step {s s' : St} {d : Nat} (h : Fit ctx w n s) (h1 : Post ctx s s') (hd : s.pos + d ≤ s'.pos) : Fit ctx w (n - d) s' :=
  ⟨h.1, h1.wf ctx h.2.1, by have := h.2.2; have := h1.2.1; omega⟩

theorem Fit.later {s s' : St} (h : Fit ctx w n s) (h1 : Post ctx s s') : Fit ctx w n s' :=
  ⟨h.1, h1.wf ctx h.2.1, by have := h.2.2; have := h1.1; omega⟩

theorem stops_iff : Stops ctx S G E p Q ↔ ∀ s, S s.pos → (p s).Sat (fun s' a => G s'.pos ∧ Q a) (fun _ s' => E s'.pos) True :=
  ⟨fun h s hs => (h s hs).imp (fun _ _ _ x => ⟨x.1, x.2.1⟩) (fun _ _ _ x => x.1) (fun _ => trivial),
   fun h s hs => (h s hs).imp (fun _ _ _ x => ⟨x.1, x.2, fun f => f.1.elim⟩) (fun _ _ _ x => ⟨x, fun f => f.1.elim⟩) (fun _ f => f.1)⟩

theorem Stops.ok (h : Stops ctx S G E p Q) {s s' : St} {a : α} (hs : S s.pos) (e : p s = .ok s' a) : G s'.pos ∧ Q a :=
  let x := (h s hs).of_ok e; ⟨x.1, x.2.1⟩

theorem Stops.er (h : Stops ctx S G E p Q) {s s' : St} {k : Bool} (hs : S s.pos) (e : p s = .err k s') : E s'.pos :=
  ((h s hs).of_err e).1

/-- with the account switched off nothing but positions and values is claimed -/
theorem Stops.any (h : Stops ctx S G E p Q) : Walks ctx False n d fl S G E p Q :=
  fun s hs => (h s hs).imp (fun _ _ _ x => ⟨x.1, x.2.1, fun f => f.1.elim⟩) (fun _ _ _ x => ⟨x.1, fun f => f.1.elim⟩) (fun _ f => f.1)

theorem Stops.triv : Stops ctx S anywhere anywhere p anything :=
  stops_iff.2 fun s _ => (Res.sat_true (p s)).imp (fun _ _ _ _ => ⟨trivial, trivial⟩) (fun _ _ _ h => h) id

theorem Walks.mono (h : Walks ctx w n d fl S G E p Q) {w' : Prop} {n' d' : Nat} {fl' : Prop} {S' G' E' : Nat → Prop}
    {Q' : α → Prop} (fit : ∀ s, Fit ctx w' n' s → Fit ctx w n s) (hd : d' ≤ d) (hf : fl → fl') (hS : ∀ i, S' i → S i)
    (hG : ∀ i, G i → G' i) (hE : ∀ i, E i → E' i) (hQ : ∀ a, Q a → Q' a) : Walks ctx w' n' d' fl' S' G' E' p Q' :=
  fun s hs => (h s (hS _ hs)).imp
    (fun _ _ _ x => ⟨hG _ x.1, hQ _ x.2.1, fun f => ⟨(x.2.2 (fit s f)).1, Nat.le_trans (Nat.add_le_add_left hd _) (x.2.2 (fit s f)).2⟩⟩)
    (fun _ _ _ x => ⟨hE _ x.1, fun f => ⟨(x.2 (fit s f)).1, (x.2 (fit s f)).2.1, fun hi => hf ((x.2 (fit s f)).2.2 hi)⟩⟩)
    (fun x f => x (fit s f))

theorem Walks.stops (h : Walks ctx w n d fl S G E p Q) : Stops ctx S G E p Q :=
  h.mono (fun _ f => f.1.elim) (Nat.zero_le _) (fun _ => trivial) (fun _ => id) (fun _ => id) (fun _ => id) (fun _ => id)

theorem Walks.weak (h : Walks ctx w n d fl S G E p Q) : Walks ctx w n 0 True S G E p Q :=
  h.mono (fun _ => id) (Nat.zero_le _) (fun _ => trivial) (fun _ => id) (fun _ => id) (fun _ => id) (fun _ => id)

theorem Walks.anyErr (h : Walks ctx w n d fl S G E p Q) : Walks ctx w n d fl S G anywhere p Q :=
  h.mono (fun _ => id) (Nat.le_refl _) id (fun _ => id) (fun _ => id) (fun _ _ => trivial) (fun _ => id)

theorem Walks.imp (h : Walks ctx w n d fl S G E p Q) {Q' : α → Prop} (hQ : ∀ a, Q a → Q' a) : Walks ctx w n d fl S G E p Q' :=
  h.mono (fun _ => id) (Nat.le_refl _) id (fun _ => id) (fun _ => id) (fun _ => id) hQ

/-- to a smaller budget, or to any budget where `n` exceeds the array size (every well-formed state fits `n` already) -/
theorem Walks.budget (h : Walks ctx w n d fl S G E p Q) {n' : Nat} (hn : n' ≤ n ∨ ctx.toks.size < n) : Walks ctx w n' d fl S G E p Q :=
  h.mono (fun s f => ⟨f.1, f.2.1, hn.elim (fun h => Nat.lt_of_lt_of_le f.2.2 h)
    (fun h => Nat.lt_of_le_of_lt (Nat.sub_le ctx.toks.size s.pos) h)⟩) (Nat.le_refl _) id
    (fun _ => id) (fun _ => id) (fun _ => id) (fun _ => id)

/-- position facts and, separately, the facts about the states that fit -/
theorem Walks.mk' (hs : Stops ctx S G E p Q) (hr : ∀ s, S s.pos → Fit ctx w n s →
    (p s).Sat (fun s' _ => Post ctx s s' ∧ s.pos + d ≤ s'.pos) (fun k s' => k = false ∧ Post ctx s s' ∧ (InFront ctx s → fl)) False) :
    Walks ctx w n d fl S G E p Q :=
  fun s hs' => (Res.sat_iff _).2
    ⟨fun _ e f => ((Res.sat_iff _).1 (hr s hs' f)).1 _ e,
     fun _ _ e => let x := (hs s hs').of_ok e; ⟨x.1, x.2.1, fun f => (hr s hs' f).of_ok e⟩,
     fun _ _ e => ⟨((hs s hs').of_err e).1, fun f => (hr s hs' f).of_err e⟩⟩

theorem runs_mk (h : ∀ s, WF ctx s → (p s).Sat (fun s' _ => Post ctx s s' ∧ s.pos + d ≤ s'.pos)
    (fun k s' => k = false ∧ Post ctx s s' ∧ (InFront ctx s → fl)) False) : Runs ctx n d fl p :=
  Walks.mk' Stops.triv (fun s _ f => h s f.2.1)

/-- what a run from a state that fits satisfies -/
theorem Walks.sat (h : Walks ctx True n d fl anywhere G E p Q) {s : St} (hw : WF ctx s) (hn : ctx.toks.size - s.pos < n) :
    (p s).Sat (fun s' _ => Post ctx s s' ∧ s.pos + d ≤ s'.pos) (fun k s' => k = false ∧ Post ctx s s' ∧ (InFront ctx s → fl)) False :=
  (h s trivial).imp (fun _ _ _ x => x.2.2 ⟨trivial, hw, hn⟩) (fun _ _ _ x => x.2 ⟨trivial, hw, hn⟩) (fun x => x ⟨trivial, hw, hn⟩)

theorem walks_of (hr : ∀ m, Runs ctx m d fl p) (hs : Stops ctx S G E p Q) : Walks ctx w n d fl S G E p Q :=
  Walks.mk' hs (fun _ _ f => (hr n).sat f.2.1 f.2.2)

theorem Walks.lands (h : Walks ctx True n d fl anywhere G E p Q) {s : St} (hw : WF ctx s) (hn : ctx.toks.size - s.pos < n) :
    Lands ctx s (p s) :=
  (h.sat hw hn).imp (fun _ _ _ x => x.1) (fun _ _ _ x => ⟨x.1, x.2.1⟩) id

theorem Walks.safe (h : Walks ctx True n d fl anywhere G E p Q) {s : St} (hw : WF ctx s) (hn : ctx.toks.size - s.pos < n) :
    Safe ctx p s := Ends.safe ctx (h.lands hw hn)

theorem Walks.strict (h : Walks ctx True n (d + 1) fl anywhere G E p Q) {s : St} (hw : WF ctx s) (hn : ctx.toks.size - s.pos < n) :
    Strict p s :=
  fun _ _ e => by have := ((h.sat hw hn).of_ok e).2; omega

theorem Walks.noerr (h : Walks ctx True n d False anywhere G E p Q) {s : St} (hw : WF ctx s) (hn : ctx.toks.size - s.pos < n)
    (hi : InFront ctx s) : NoErr p s :=
  fun _ _ e => ((h.sat hw hn).of_err e).2.2 hi

theorem Walks.congr {q : P α} (e : ∀ s, p s = q s) (h : Walks ctx w n d fl S G E q Q) : Walks ctx w n d fl S G E p Q :=
  fun s hs => by rw [e]; exact h s hs

theorem Walks.pure {a : α} (h : Q a) : Walks ctx w n 0 fl G G E (pure' a) Q :=
  fun _ hs => ⟨hs, h, fun f => ⟨Post.refl ctx f.2.1, Nat.le_refl _⟩⟩

/-- the continuation of a parser that has got from `s` to `s1` -/
theorem Walks.after {q : P β} {R : β → Prop} {d' d'' : Nat} {G' : Nat → Prop} {s s1 : St} (hq : Walks ctx w (n - d) d' fl G G' E q R)
    (h1 : G s1.pos) (h : Fit ctx w n s → Post ctx s s1 ∧ s.pos + d ≤ s1.pos) (hd : d'' ≤ d + d') : (q s1).Sat
      (fun s' b => G' s'.pos ∧ R b ∧ (Fit ctx w n s → Post ctx s s' ∧ s.pos + d'' ≤ s'.pos))
      (fun k s' => E s'.pos ∧ (Fit ctx w n s → k = false ∧ Post ctx s s' ∧ (InFront ctx s → fl))) (¬ Fit ctx w n s) := by
  have fit : Fit ctx w n s → Fit ctx w (n - d) s1 := fun f => f.step (h f).1 (h f).2
  exact (hq s1 h1).imp
    (fun _ _ _ h' => ⟨h'.1, h'.2.1, fun f => ⟨(h f).1.trans ctx (h'.2.2 (fit f)).1,
      by have := (h f).2; have := (h'.2.2 (fit f)).2; omega⟩⟩)
    (fun _ _ _ h' => ⟨h'.1, fun f => ⟨(h'.2 (fit f)).1, (h f).1.trans ctx (h'.2 (fit f)).2.1,
      fun hi => (h'.2 (fit f)).2.2 ((Post.k ctx (h f).1).inFront hi)⟩⟩)
    (fun h' f => h' (fit f))

theorem Walks.bind {f : α → P β} {R : β → Prop} {d' d'' : Nat} {G' : Nat → Prop} (hp : Walks ctx w n d fl S G E p Q)
    (hf : ∀ a, Q a → Walks ctx w (n - d) d' fl G G' E (f a) R) (hd : d'' ≤ d + d' := by exact Nat.le_refl _) :
    Walks ctx w n d'' fl S G' E (Parse.bind p f) R :=
  fun s hs => (sat_bind p f s).2 ((hp s hs).imp (fun _ a _ h => (hf a h.2.1).after h.1 h.2.2 hd) (fun _ _ _ h => h) id)

theorem Walks.seq {q : P β} {R : β → Prop} {d' d'' : Nat} {G' : Nat → Prop} (hp : Walks ctx w n d fl S G E p Q)
    (hq : Walks ctx w (n - d) d' fl G G' E q R) (hd : d'' ≤ d + d' := by exact Nat.le_refl _) :
    Walks ctx w n d'' fl S G' E (Parse.bind p (fun _ => q)) R :=
  hp.bind (fun _ _ => hq) hd

theorem Walks.pmap (f : α → β) {R : β → Prop} (hp : Walks ctx w n d fl S G E p Q) (hf : ∀ a, Q a → R (f a)) :
    Walks ctx w n d fl S G E (pmap f p) R :=
  fun s hs => (sat_pmap f p s).2 ((hp s hs).imp (fun _ a _ h => ⟨h.1, hf a h.2.1, h.2.2⟩) (fun _ _ _ h => h) id)

/-- an alternative gives up the error of its first parser -/
theorem Walks.alt2 {q : P α} {fl' : Prop} {E' : Nat → Prop} (hp : Walks ctx w n d fl' S G E' p Q) (hq : Walks ctx w n d fl S G E q Q) :
    Walks ctx w n d fl S G E (alt2 p q) Q :=
  fun s hs => (sat_alt2 p q s).2 ((hp s hs).imp (fun _ _ _ h => h) (fun _ _ _ _ => hq s hs) id)

theorem Walks.altList (hE : ∀ i, S i → E i) (ps : List (P α)) (h : ∀ p ∈ ps, Walks ctx w n d True S G E p Q) :
    Walks ctx w n d True S G E (altList ps) Q :=
  fun s hs => sat_altList s ⟨hE _ hs, fun f => ⟨rfl, Post.refl ctx f.2.1, fun _ => trivial⟩⟩ ps (fun p hp => h p hp s hs)

theorem Walks.opt {R : Option α → Prop} {fl' : Prop} {E' : Nat → Prop} (hp : Walks ctx w n d fl G G E' p (fun a => R (some a)))
    (hn : R none) : Walks ctx w n 0 fl' G G E (opt p) R :=
  fun s hs => (sat_opt p s).2 ((hp s hs).imp
    (fun _ _ _ x => ⟨x.1, x.2.1, fun f => ⟨(x.2.2 f).1, Nat.le_trans (Nat.le_add_right _ _) (x.2.2 f).2⟩⟩)
    (fun _ _ _ _ => ⟨hs, hn, fun f => ⟨Post.refl ctx f.2.1, Nat.le_refl _⟩⟩) id)

theorem info_sat {Q : St → α × AstInfo → Prop} {E : Bool → St → Prop} {s : St} (hw : WF ctx s)
    (h : (p { s with errBuf := [] }).Sat (fun s' a => s.pos ≤ s'.pos ∧
        Q { s' with errBuf := s.errBuf } (a, { range := ⟨s.pos - s.refPos, s'.pos - s.refPos⟩, errors := s'.errBuf }))
      (fun k s' => E k { s' with errBuf := s.errBuf }) False) : (info p s).Sat Q E False := by
  rw [sat_info, if_neg (Nat.not_lt.2 hw.1)]
  exact h.imp (fun _ _ _ x => by rw [if_neg (Nat.not_lt.2 (Nat.le_trans hw.1 x.1))]; exact x.2) (fun _ _ _ x => x) id

/-- from a well-formed state `info` does not underflow: the reference position is not behind the start, and the parser
    does not move backwards -/
theorem Walks.info (hp : Walks ctx w n d fl S G E p Q) : Walks ctx w n d fl S G E (info p) (fun r => Q r.1) := by
  intro s hs
  rw [sat_info]
  split
  · next h => exact fun f => absurd f.2.1.1 (Nat.not_le.2 h)
  · refine (hp { s with errBuf := [] } hs).imp (fun s' _ _ x => ?_) (fun _ _ _ x => x) id
    split
    · next h => exact fun f => absurd (Nat.le_trans f.2.1.1 (x.2.2 f).1.1) (Nat.not_le.2 h)
    · exact x

theorem Walks.node (f : α × AstInfo → β) {R : β → Prop} (hp : Walks ctx w n d fl S G E p Q) (hf : ∀ a i, Q a → R (f (a, i))) :
    Walks ctx w n d fl S G E (Parse.pmap f (Parse.info p)) R :=
  hp.info.pmap f (fun r h => hf r.1 r.2 h)

theorem Walks.confusable (msg : Msg) (hp : Walks ctx w n d fl S G E p Q) : Walks ctx w n d fl S G E (confusable p msg) Q :=
  fun s hs => (sat_confusable p msg s).2 (hp.info s hs)

theorem Walks.refParse {parseT : Option α → P α} (hp : Walks ctx w n d fl S G E (parseT none) Q) :
    Walks ctx w n d fl S G E (refParse parseT none) (fun r => Q r.val) := by
  intro s hs
  rw [sat_refParse]
  split
  · next h => exact fun f => absurd f.2.1.1 (Nat.not_le.2 h)
  · have fit : Fit ctx w n s → Fit ctx w n { s with refPos := s.pos } := fun f => ⟨f.1, wf_reref ctx f.2.1, f.2.2⟩
    exact (hp { s with refPos := s.pos } hs).imp
      (fun _ _ _ x => ⟨x.1, x.2.1, fun f => ⟨(x.2.2 (fit f)).1.reref, (x.2.2 (fit f)).2⟩⟩)
      (fun _ _ _ x => ⟨x.1, fun f => ⟨(x.2 (fit f)).1, (x.2 (fit f)).2.1.reref, (x.2 (fit f)).2.2⟩⟩)
      (fun x f => x (fit f))

/-- `expect` goes on from where its parser failed, so that position has to be in `G` too.  The errors of a state that
    fits are plain, so there the parser is not tried again -/
theorem Walks.expect {parser : Option α → P α} {fl' : Prop} (msg : Msg) (hp : Walks ctx w n d fl G G G (parser none) Q) :
    Walks ctx w n 0 fl' G G E (Parse.expect none parser msg) (fun o => ∀ a, o = some a → Q a) := by
  intro s hs
  have tail : ∀ s1 : St, G s1.pos → (Fit ctx w n s → Post ctx s s1) → (expectError s1 msg).Sat
      (fun s3 _ => G s3.pos ∧ (∀ a, (none : Option α) = some a → Q a) ∧ (Fit ctx w n s → Post ctx s s3 ∧ s.pos + 0 ≤ s3.pos))
      (fun k s' => E s'.pos ∧ (Fit ctx w n s → k = false ∧ Post ctx s s' ∧ (InFront ctx s → fl'))) (¬ Fit ctx w n s) := by
    intro s1 g1 h1
    rw [sat_expectError]
    split
    · next h => exact fun f => absurd ((h1 f).wf ctx f.2.1).1 (Nat.not_le.2 h)
    · exact ⟨g1, nofun, fun f => ⟨h1 f, (h1 f).1⟩⟩
  refine (sat_expect parser msg s).2 ((hp s hs).imp (fun _ _ _ x => ⟨x.1, fun b hb => Option.some.inj hb ▸ x.2.1,
    fun f => ⟨(x.2.2 f).1, (x.2.2 f).1.1⟩⟩) (fun k s1 _ x => ?_) id)
  cases k
  · exact tail s1 x.1 (fun f => (x.2 f).2.1)
  · exact (hp s1 x.1).imp (fun _ _ _ y => ⟨y.1, fun b hb => Option.some.inj hb ▸ y.2.1, fun f => nomatch (x.2 f).1⟩)
      (fun _ s2 _ y => tail s2 y.1 (fun f => nomatch (x.2 f).1)) (fun _ f => nomatch (x.2 f).1)

theorem Walks.expectInc {fl' : Prop} (msg : Msg) (hp : Walks ctx w n d fl G G G p Q) :
    Walks ctx w n 0 fl' G G E (Parse.expect none (inc p) msg) anything :=
  (Walks.expect (parser := inc p) msg hp).imp (fun _ _ => trivial)

/-- a loop over elements that consume something ends without a failure; it gives up the error of its last round -/
theorem Walks.many0 {fl' : Prop} {E' : Nat → Prop} (hp : Walks ctx w n 1 fl G G E' p Q) :
    Walks ctx w n 0 fl' G G G (Parse.many0 p (loopFuel ctx)) (fun l => ∀ x ∈ l, Q x) := by
  have key : ∀ fuel s, G s.pos → (Parse.many0 p fuel s).Sat
      (fun s' l => G s'.pos ∧ (∀ x ∈ l, Q x) ∧ (Fit ctx w n s → Post ctx s s'))
      (fun _ s' => G s'.pos ∧ ¬ Fit ctx w n s) (Fit ctx w n s → fuel ≤ ctx.toks.size - s.pos) := by
    intro fuel
    induction fuel with
    | zero => exact fun _ _ _ => Nat.zero_le _
    | succ fuel ih =>
      intro s hs
      refine (sat_many0 p fuel s).2 ((hp s hs).imp (fun s1 a _ h => ?_)
        (fun _ _ _ _ => ⟨hs, nofun, fun f => Post.refl ctx f.2.1⟩) (fun h f => absurd f h))
      split
      · next e => exact ⟨hs, fun f => by have := (h.2.2 f).2; omega⟩
      · exact (ih s1 h.1).imp
          (fun _ _ _ x => ⟨x.1, List.forall_mem_cons.2 ⟨h.2.1, x.2.1⟩, fun f => (h.2.2 f).1.trans ctx (x.2.2 (f.later (h.2.2 f).1))⟩)
          (fun _ _ _ x => ⟨x.1, fun f => x.2 (f.later (h.2.2 f).1)⟩)
          (fun x f => by have := x (f.later (h.2.2 f).1); have := (h.2.2 f).2; have := (h.2.2 f).1.2.1; omega)
  intro s hs
  exact (key _ s hs).imp (fun _ _ _ x => ⟨x.1, x.2.1, fun f => ⟨x.2.2 f, (x.2.2 f).1⟩⟩) (fun _ _ _ x => ⟨x.1, fun f => absurd f x.2⟩)
    (fun x f => by have := x f; have := loopFuel_ok ctx s f.2.1; omega)

theorem Walks.many {parseT : Option α → P α} {fl' : Prop} {E' : Nat → Prop} (range : α → Range)
    (hp : Walks ctx w n 1 fl G G E' (parseT none) Q) :
    Walks ctx w n 0 fl' G G G (many ctx range parseT (loopFuel ctx) none) (fun l => ∀ r ∈ l, Q r.val) :=
  Walks.congr (many_none ctx range parseT _) hp.refParse.many0

end

section
variable {ctx} {n d : Nat} {fl : Prop} {α : Type}

theorem runs_peek {p : P α} (h : ∀ s, WF ctx s → SafeW ctx p s) : Runs ctx n 0 True (peek p) :=
  runs_mk fun s hw => (sat_peek p s).2 ((h s hw).imp (fun _ _ _ _ => ⟨Post.refl ctx hw, Nat.le_refl _⟩)
    (fun _ _ _ x => ⟨x.1, x.2, fun _ => trivial⟩) id)

theorem runs_tk (k : Kind) (hk : Plain k := by decide) : Runs ctx n 1 True (tk ctx k) :=
  runs_mk fun s hw => (tk_sat ctx k s hw).imp (fun _ _ _ ⟨_, hj, ht, hk', e⟩ => e ▸ ⟨(skips_post ctx hw hj).trans ctx
      (step_post ctx ht (fun he hq => hk.1 (hk' ▸ he.at_last ctx ht hq)) (hk' ▸ ⟨hk.2.1, hk.2.2.1⟩)),
      Nat.succ_le_succ hj.le⟩)
    (fun _ _ _ x => ⟨x.1, x.2, fun _ => trivial⟩) id

theorem runs_tks (ks : List Kind) (hks : ∀ k ∈ ks, Plain k := by decide) : Runs ctx n 1 True (altList (ks.map (tk ctx))) :=
  Walks.altList (fun _ => id) _ (fun p hp => by
    obtain ⟨k, hk, rfl⟩ := List.mem_map.mp hp
    exact runs_tk k (hks k hk))

theorem tks_kind (ks : List Kind) (s : St) (hw : WF ctx s) :
    (altList (ks.map (tk ctx)) s).Sat (fun _ t => t.kind ∈ ks) (fun _ _ => True) True :=
  sat_altList s trivial _ (fun p hp => by
    obtain ⟨k, hk, rfl⟩ := List.mem_map.mp hp
    exact (tk_sat ctx k s hw).imp (fun _ _ _ ⟨_, _, _, e, _⟩ => e ▸ hk) (fun _ _ _ _ => trivial) False.elim)

theorem runs_ident : Runs ctx n 1 True (parseIdentifier ctx none) := (runs_tk .Ident).node _ (fun _ _ _ => trivial)

theorem runs_docComments : Runs ctx n 0 fl (docComments ctx) :=
  runs_mk fun s hw => by
    obtain ⟨j, hj⟩ := skips_exists ctx s.pos
    obtain ⟨doc, e⟩ := docComments_eq ctx hw hj
    rw [e]
    exact ⟨skips_post ctx hw hj, hj.le⟩

end

/-- under `peek` the input is restored: the final `Eof` stays where it is -/
theorem peek_safeW {α} {p : P α} {s : St} (hw : WF ctx s) (hp : SafeW ctx p s) : Safe ctx (peek p) s :=
  Ends.safe ctx ((sat_peek p s).2 (hp.imp (fun _ _ _ _ => Post.refl ctx hw) (fun _ _ _ h => h) id))

theorem peek_safe {α} {p : P α} {s : St} (hw : WF ctx s) (hp : Safe ctx p s) : Safe ctx (peek p) s :=
  peek_safeW ctx hw (hp.ends.weaken (fun _ _ => trivial) (fun _ => id))

theorem altList_safeW {α} {s : St} (hw : WF ctx s) (ps : List (P α)) (h : ∀ p ∈ ps, SafeW ctx p s) : SafeW ctx (altList ps) s :=
  sat_altList s ⟨rfl, Post.refl ctx hw⟩ ps h

theorem void_safeW {α} {p : P α} {s : St} (hp : SafeW ctx p s) : SafeW ctx (void p) s :=
  (sat_pmap _ p s).2 hp

/-- the set `n` can be expanded within depth `d`, and an identifier is only followed by plain tokens -/
def laFits : Nat → LAName → Bool
  | 0, _ => false
  | d + 1, n => (Gen.lookAheadSet n).all (fun item => match item with
    | .tok _ => true
    | .identThen ks => ks.all (fun k => decide (Plain k))
    | .sub m => laFits d m)

/-- every look-ahead set of the regenerated table fits into the depth budget of `la` -/
theorem la_fits (n : LAName) : laFits 8 n = true := by cases n <;> decide

theorem lookAhead_safeW (fuel : Nat) (s : St) (hw : WF ctx s) : ∀ (d : Nat) (n : LAName), laFits d n = true →
    SafeW ctx (lookAhead ctx fuel d n) s
  | 0, _, h => nomatch h
  | d + 1, n, h => by
    unfold lookAhead
    refine altList_safeW ctx hw _ (fun p hp => ?_)
    obtain ⟨item, hi, rfl⟩ := List.mem_map.mp hp
    have hok := List.all_eq_true.mp h item hi
    cases item with
    | tok k => exact void_safeW ctx (tk_safeW ctx k s hw)
    | identThen ks =>
      exact ((((runs_ident.bind fun _ _ => (runs_tks ks (fun k hk => of_decide_eq_true (List.all_eq_true.mp hok k hk))).weak).pmap (R := anything) _
        (fun _ _ => trivial)).lands hw (Nat.lt_succ_self _)).weaken (fun _ _ => trivial) (fun _ => id))
    | sub m => exact lookAhead_safeW fuel s hw d m hok

theorem altList_noerr {α} {s : St} {p0 : P α} (h0 : NoErr p0 s) : ∀ (ps : List (P α)), p0 ∈ ps → NoErr (altList ps) s
  | [p], hm => List.mem_singleton.mp hm ▸ h0
  | p :: q :: ps, hm => noerr_iff.2 ((sat_alt2 p _ s).2 ((Res.sat_iff _).2 ⟨fun _ _ => trivial, fun _ _ _ => trivial,
      fun k x e => (List.mem_cons.mp hm).elim (fun e0 => absurd e (e0 ▸ h0 k x)) (fun hm' => noerr_iff.1 (altList_noerr h0 (q :: ps) hm'))⟩))

/-- a look-ahead set does not fail in front of a token, other than an identifier, that is among its first kinds -/
theorem lookAhead_accepts (fuel : Nat) {k : Kind} (hk : k ≠ Kind.Ident) {s : St} (ht : NoErr (tk ctx k) s) :
    ∀ (d : Nat) (n : LAName), k ∈ laFirstKinds d n → NoErr (lookAhead ctx fuel d n) s
  | 0, _, h => nomatch h
  | d + 1, n, hm => by
    obtain ⟨item, hi, hki⟩ := List.mem_flatMap.mp hm
    unfold lookAhead
    refine altList_noerr ?_ _ (List.mem_map_of_mem hi)
    cases item with
    | tok k2 =>
      cases List.mem_singleton.mp hki
      exact noerr_iff.2 ((sat_pmap _ _ s).2 (noerr_iff.1 ht))
    | identThen ks => exact absurd (List.mem_singleton.mp hki) hk
    | sub m => exact lookAhead_accepts fuel hk ht d m hki

theorem peekla_safe (n : LAName) (s : St) (hw : WF ctx s) : Safe ctx (peek (la ctx n)) s :=
  peek_safeW ctx hw (lookAhead_safeW ctx 0 s hw 8 n (la_fits n))

theorem sync_sets_ok : SyncSetsOK = true := by decide

/-- every synchronisation set accepts `proc`, `type` and the final `Eof` (the table obligation `SyncSetsOK`) -/
theorem la_of (n : LAName) (s : St) (hw : WF ctx s) {t : Token} (ht : ctx.toks[s.pos]? = some t) (hk : t.kind ∈ [Kind.Proc, Kind.Type, Kind.Eof]) :
    NoErr (peek (la ctx n)) s := by
  have hn : n ∈ allLANames := by cases n <;> decide
  have hm := List.all_eq_true.mp (List.all_eq_true.mp sync_sets_ok n hn) _ hk
  have hne : ∀ k', k' ∉ [Kind.Proc, Kind.Type, Kind.Eof] → t.kind ≠ k' := fun k' h e => h (e ▸ hk)
  exact noerr_iff.2 ((sat_peek _ s).2 (noerr_iff.1 (lookAhead_accepts ctx 0 (hne _ (by decide))
    (tk_here ctx s hw t ht (hne _ (by decide))) 8 n (List.contains_iff_mem.mp hm))))

/-- **every synchronisation set accepts the final `Eof`**: no recovery skips it -/
theorem peekla_atEof (n : LAName) : AtEof ctx (peek (la ctx n)) := by
  intro he s hw hq
  obtain ⟨tl, htl, hkl⟩ := he.last
  rw [show ctx.toks.size - 1 = s.pos by omega] at htl
  exact la_of ctx n s hw htl (by rw [hkl]; decide)

/-- **every synchronisation set accepts `proc` and `type`**: no recovery skips a declaration keyword -/
theorem peekla_atKw (n : LAName) : AtKw ctx (peek (la ctx n)) := by
  intro s t hw ht hk
  exact la_of ctx n s hw ht (by rcases hk with hk | hk <;> rw [hk] <;> decide)

/-- in front of the final `Eof` a recovery finds its synchronisation token: it does not run off the end -/
theorem ignoreUntil0_noerr (pattern : P Unit) (hE : AtEof ctx pattern) (he : EofLast ctx) (r : Nat) :
    ∀ (fuel start : Nat) (s : St), WF ctx s → s.refPos = r → s.pos < ctx.toks.size →
    (∀ s', WF ctx s' → s.pos ≤ s'.pos → s'.refPos = r → Safe ctx pattern s') →
    NoErr (ignoreUntil0 ctx pattern fuel start) s
  | 0, _, s, _, _, _, _ => by intro k x h; cases h
  | fuel + 1, start, s, hw, hr, hB, hp => by
    refine noerr_iff.2 ((sat_ignoreUntil0 ctx pattern fuel start s).2 ((Res.sat_true _).imp (fun _ _ _ _ => trivial)
      (fun k1 x1 hpat _ => ?_) id))
    rw [if_pos hB]
    exact noerr_iff.1 (ignoreUntil0_noerr pattern hE he r fuel start _ ⟨Nat.le_succ_of_le hw.1, hB⟩ hr
      (Nat.lt_of_le_of_ne hB (fun hq => hE he s hw hq k1 x1 hpat)) (fun s' w l rr => hp s' w (Nat.le_of_succ_le l) rr))

section
variable {ctx} {n d : Nat} {fl : Prop} {α β : Type}

theorem runs_peekla (m : LAName) : Runs ctx n 0 True (peek (la ctx m)) :=
  runs_peek fun s hw => lookAhead_safeW ctx 0 s hw 8 m (la_fits m)

theorem runs_peekTks (ks : List Kind) : Runs ctx n 0 True (peek (altList (ks.map fun k => void (tk ctx k)))) :=
  runs_peek fun s hw => altList_safeW ctx hw _ fun p hp => by
    obtain ⟨k, _, rfl⟩ := List.mem_map.mp hp
    exact void_safeW ctx (tk_safeW ctx k s hw)

theorem runs_ignoreUntil0 (m : LAName) :
    Runs ctx n 0 False (fun s => ignoreUntil0 ctx (peek (la ctx m)) (loopFuel ctx) s.pos s) :=
  runs_mk fun s hw => by
    have hp : ∀ s', WF ctx s' → s.pos ≤ s'.pos → s'.refPos = s.refPos → Safe ctx (peek (la ctx m)) s' :=
      fun s' w _ _ => peekla_safe ctx m s' w
    exact (ignoreUntil0_lands ctx _ (peekla_atEof ctx m) (peekla_atKw ctx m) (loopFuel ctx) s.pos s hw (loopFuel_ok ctx s hw)
        (fun s' w l rr => (hp s' w l rr).ends)).imp (fun _ _ _ x => ⟨x, x.1⟩)
      (fun k x e y => ⟨y.1, y.2, fun hi =>
        ignoreUntil0_noerr ctx _ (peekla_atEof ctx m) hi.1 s.refPos _ _ s hw rfl hi.2 hp k x e⟩) id

/-- the recovery that must skip something: it fails where its pattern matches, otherwise a token is skipped -/
theorem runs_ignoreUntil1 (m : LAName) : Runs ctx n 1 True (ignoreUntil1 ctx (peek (la ctx m)) (loopFuel ctx)) :=
  runs_mk fun s hw => by
    have hs := (peekla_safe ctx m s hw).ends
    unfold ignoreUntil1
    cases h : peek (la ctx m) s with
    | ok s1 u => rw [h] at hs; exact ⟨rfl, hs, fun _ => trivial⟩
    | panic e => rw [h] at hs; exact hs.elim
    | err k x =>
      show (ignoreUntil0 ctx (peek (la ctx m)) (ctx.toks.size + 1 + 1) s.pos s).Sat _ _ _
      rw [sat_ignoreUntil0, h]
      show if s.pos < ctx.toks.size then _ else _
      split
      · next hlt =>
        have hp1 := skip_post ctx (peekla_atEof ctx m) (peekla_atKw ctx m) hw h (Array.getElem?_eq_getElem hlt)
        have h2 := ignoreUntil0_lands ctx _ (peekla_atEof ctx m) (peekla_atKw ctx m) (ctx.toks.size + 1) s.pos
          _ (hp1.wf ctx hw) (show _ - (s.pos + 1) < _ by omega) (fun s' w _ _ => (peekla_safe ctx m s' w).ends)
        exact h2.imp (fun _ _ _ y => ⟨hp1.trans ctx y, y.1⟩)
          (fun _ _ _ y => ⟨y.1, hp1.trans ctx y.2, fun _ => trivial⟩) id
      · exact ⟨rfl, Post.refl ctx hw, fun _ => trivial⟩

end

theorem ops_ok {ks : List Kind} (h : ks.all (fun k => (opOfKind k).isSome) = true) : ∀ k ∈ ks, ∃ op, opOfKind k = some op :=
  fun k hk => Option.isSome_iff_exists.mp (List.all_eq_true.mp h k hk)

theorem plain_of_op {k : Kind} (h : ∃ op, opOfKind k = some op) : Plain k := by
  obtain ⟨op, h⟩ := h
  refine ⟨?_, ?_, ?_, ?_⟩ <;> rintro rfl <;> cases h

/-- an optional operator and what follows it: the step of the operator loops and the tail of a comparison -/
theorem opStep_lands {ops : List Kind} (hops : ∀ k ∈ ops, ∃ op, opOfKind k = some op) {s : St} (hw : WF ctx s) (e : Expr)
    (next : Operator → P Expr)
    (hnext : ∀ op s1, WF ctx s1 → s.pos < s1.pos → s1.refPos = s.refPos → Lands ctx s1 (next op s1)) :
    Lands ctx s (opStep ctx ops next e s) := by
  refine (sat_opStep ops next e s).2 (((runs_tks (n := ctx.toks.size + 1) ops (fun k hk => plain_of_op (hops k hk))).sat hw
    (Nat.lt_succ_of_le (Nat.sub_le _ _))).imp (fun s1 t h x => ?_) (fun _ _ _ _ => Post.refl ctx hw) id)
  obtain ⟨op, hop⟩ := hops _ ((tks_kind ops s hw).of_ok h)
  rw [hop]
  exact (hnext op s1 (x.1.wf ctx hw) x.2 x.1.2.2.1).from ctx x.1

theorem opLoop_lands (ops : List Kind) (hops : ∀ k ∈ ops, ∃ op, opOfKind k = some op) (rhs : Expr → Operator → P Expr) :
    ∀ (fuel : Nat) (e : Expr) (s : St), WF ctx s → ctx.toks.size - s.pos < fuel →
    (∀ e op s', WF ctx s' → s.pos ≤ s'.pos → s'.refPos = s.refPos → Safe ctx (rhs e op) s') →
    Lands ctx s (opLoop ctx ops rhs fuel e s)
  | 0, _, s, _, hf, _ => by omega
  | fuel + 1, e, s, hw, hf, hrhs => by
    rw [opLoop_succ]
    refine opStep_lands ctx hops hw e _ (fun op s1 w1 l1 r1 => ?_)
    refine (sat_bind _ _ s1).2 ((hrhs e op s1 w1 (Nat.le_of_lt l1) r1).ends.imp (fun s2 e' _ h12 => ?_) (fun _ _ _ x => x) id)
    have h12 : Post ctx s1 s2 := h12
    exact (opLoop_lands ops hops rhs fuel e' s2 (h12.wf ctx w1) (by have := h12.1; have := h12.2.1; omega)
      (fun e op s' w l rr => hrhs e op s' w (by have := h12.1; omega) (by rw [rr, h12.2.2.1, r1]))).from ctx h12

theorem opLoop_safe (ops : List Kind) (hops : ∀ k ∈ ops, ∃ op, opOfKind k = some op) (rhs : Expr → Operator → P Expr) (r : Nat) :
    ∀ (fuel : Nat) (e : Expr) (s0 s : St), WF ctx s → ctx.toks.size - s.pos < fuel → s.refPos = r → Post ctx s0 s →
    (∀ e op s', WF ctx s' → s.pos ≤ s'.pos → s'.refPos = r → Safe ctx (rhs e op) s') →
    (∀ x, opLoop ctx ops rhs fuel e s ≠ .panic x) ∧
    (∀ s' a, opLoop ctx ops rhs fuel e s = .ok s' a → Post ctx s0 s') ∧
    (∀ k s', opLoop ctx ops rhs fuel e s = .err k s' → k = false ∧ Post ctx s0 s') :=
  fun fuel e _ s hw hf hr h0 hrhs => (Res.sat_iff _).1
    ((opLoop_lands ctx ops hops rhs fuel e s hw hf (fun e op s' w l rr => hrhs e op s' w l (rr.trans hr))).from ctx h0)

theorem safe_step {α β} {p : P α} {q : P β} {s s1 : St} (hnp : ∀ e, q s1 = .panic e → p s = .panic e)
    (hok : ∀ s' a, p s = .ok s' a → ∃ b, q s1 = .ok s' b) (her : ∀ k s', p s = .err k s' → q s1 = .err k s')
    (hpan : ∀ e, p s = .panic e → q s1 = .panic e)
    (h01 : Post ctx s s1) (hq : Safe ctx q s1) : Safe ctx p s := by
  refine ⟨?_, ?_, ?_⟩
  · intro e he; exact hq.np e (hpan e he)
  · intro s' a he
    obtain ⟨b, hb⟩ := hok s' a he
    exact h01.trans ctx (hq.ok _ _ hb)
  · intro k s' he
    obtain ⟨hk, hp⟩ := hq.er _ _ (her k s' he)
    exact ⟨hk, h01.trans ctx hp⟩

theorem parseVariable_eq (F : Nat) (s : St) :
    parseVariable ctx (F + 1) none s =
      Parse.bind (info (pmap Var.named (parseIdentifier ctx none))) (fun (r : Var × AstInfo) =>
        pmap (fun (accesses : List (Option (Ref Expr) × AstInfo)) => accesses.foldl (accessStep r.2) r.1)
          (many0 (accessParser ctx (refParse (parseExpression ctx F))) (loopFuel ctx))) s := by
  simp only [parseVariable, affected_none, Parse.bind]
  cases h : info (pmap Var.named (parseIdentifier ctx none)) s with
  | ok s1 r =>
    obtain ⟨v, vinfo⟩ := r
    simp only [pmap]
    cases many0 (accessParser ctx (refParse (parseExpression ctx F))) (loopFuel ctx) s1 <;> rfl
  | err k x => rfl
  | panic e => rfl

theorem parseBracketed_eq (F : Nat) (s : St) :
    parseBracketed ctx (F + 1) s =
      pmap (fun (r : (AstInfo × Option Expr) × AstInfo) =>
          Expr.bracketed (r.1.2.getD (.error { range := ⟨r.1.1.range.hi, r.1.1.range.hi⟩ })) r.2)
        (info (bracketedInner ctx (parseComparison ctx F))) s := by
  simp only [parseBracketed, pmap]
  cases info (bracketedInner ctx (parseComparison ctx F)) s with
  | ok s1 r =>
    obtain ⟨⟨lp, e⟩, i⟩ := r
    rfl
  | err k x => rfl
  | panic e => rfl

theorem parseList_eq {α} (range : α → Range) (parseT : Option α → P α) (s : St) :
    parseList ctx range parseT (loopFuel ctx) none s =
      Parse.bind (refParse parseT none) (fun head =>
        pmap (fun (tail : List (Ref (Ref α))) => head :: tail.map (fun r => ⟨r.val.val, r.offset + r.val.offset⟩))
          (many ctx (fun (inner : Ref α) => let r := range inner.val; (⟨r.lo, r.hi + 1⟩ : Range))
            (fun this => Parse.bind (tagK ctx (loopFuel ctx) .Comma) (fun _ => refParse parseT this)) (loopFuel ctx) none)) s := by
  simp only [parseList, Parse.bind, pmap]
  cases refParse parseT none s with
  | ok s1 head =>
    simp only [Option.getD, List.any_nil, Bool.false_eq_true, if_false, Option.map_none]
    split <;> rename_i h <;> simp only [h]
  | err k x => rfl
  | panic e => rfl

end Spl.Total
