/-
  Conformance of the parser model with the grammar specification (C04), continued: type
  expressions, statements and statement lists.

  The nested matches of the specification are flattened once per construct (`stmt_*_flat`; `typeExpr_array` /
  `typeExpr_other` for type expressions); the inner parser of each construct is a sequence, followed step by step (`Parses`), and `info` around it measures the range the
  specification gives the node (`Good.kw`, `Good.seq`).  `Reference` parsers re-base the ranges (`Good.ref`);
  look-ahead sets are evaluated on the generated table; the alternatives of `Statement::parse` in front of the
  right one fail on the head token, and every statement parser fails on `}`, which ends the statement loops.
  Comma-separated lists (`parse_list`) are followed once, for any element parser (`SepList`, `ElemConf`).
  `SConf fs` = conformance of `stmt` and `stmts` at specification fuel `fs`.
-/
import SplVerif.Lemmas.ParseConform

namespace Spl.ParseConform
open Spl Spl.Parse Spl.Grammar

variable (ctx : Ctx)

theorem relType_info (r : Nat) (t : TypeExpr) : (relType r t).info = relInfo r t.info := by
  cases t <;> rfl

def GoodT (s : St) (res : Res TypeExpr) (t : TypeExpr) (sp : Span) (rest : Toks) : Prop :=
  Good ctx s res (relType s.refPos t) t.info.range sp rest

theorem typeExpr_other (g : GCtx) (fs i : Nat) (ty : TokenType) (r : Toks) (h : ty ≠ .Array) :
    typeExpr g (fs + 1) (⟨i, ty⟩ :: r) = match identTok (⟨i, ty⟩ :: r) with
      | some (i, s, r) => some (.named (mkIdent g i s), ⟨i, i⟩, r)
      | none => none := by
  rw [Grammar.typeExpr]
  · rfl
  · exact fun _ _ e => h (by cases e; rfl)

theorem typeExpr_array (g : GCtx) (fs i : Nat) (r rest : Toks) (t : TypeExpr) (sp : Span)
    (h : typeExpr g (fs + 1) (⟨i, .Array⟩ :: r) = some (t, sp, rest)) :
    ∃ i1 ty1 r1 sz isz i3 ty3 i4 ty4 r4 b sb,
      r = ⟨i1, ty1⟩ :: r1 ∧ (ty1.kind == Kind.LBracket) = true ∧
      intLitTok g r1 = some (sz, isz, ⟨i3, ty3⟩ :: ⟨i4, ty4⟩ :: r4) ∧ (ty3.kind == Kind.RBracket) = true ∧
      (ty4.kind == Kind.Of) = true ∧ typeExpr g fs r4 = some (b, sb, rest) ∧
      t = .array (some sz) (.some b 0) (mkInfo g i sb.last) ∧ sp = ⟨i, sb.last⟩ := by
  simp only [Grammar.typeExpr] at h
  split at h
  · cases h
  · rename_i x1 r1 h1
    obtain ⟨ty1, e1, k1⟩ := expectK_some _ _ _ _ h1
    split at h
    · cases h
    · rename_i sz isz r2 h2
      split at h
      · cases h
      · rename_i x3 r3 h3
        obtain ⟨ty3, e3, k3⟩ := expectK_some _ _ _ _ h3
        split at h
        · cases h
        · rename_i x4 r4 h4
          obtain ⟨ty4, e4, k4⟩ := expectK_some _ _ _ _ h4
          split at h
          · cases h
          · rename_i b sb r5 h5
            cases h
            subst e3 e4
            exact ⟨x1, ty1, r1, sz, isz, x3, ty3, x4, ty4, r4, b, sb, e1, k1, h2, k3, k4, h5, rfl, rfl⟩

theorem typeExpr_conf : ∀ (fs : Nat) ts t sp rest, typeExpr (G ctx) fs ts = some (t, sp, rest) →
    ∀ fm s, At ctx s ts → ts.length + 1 ≤ fm → GoodT ctx s (parseTypeExpr ctx fm none s) t sp rest
  | 0, ts, t, sp, rest, hs => by cases hs
  | fs + 1, ts, t, sp, rest, hs => by
    intro fm s hat hfm
    cases ts with
    | nil => cases hs
    | cons t0 r =>
      obtain ⟨i, ty⟩ := t0
      obtain ⟨f, rfl⟩ : ∃ f, fm = f + 2 := ⟨fm - 2, by simp only [List.length_cons] at hfm; omega⟩
      show Good ctx s (alt2 (parseArrayType ctx (f + 1) none) (pmap TypeExpr.named (parseIdentifier ctx none)) s) _ _ _ _
      by_cases hty : ty = .Array
      · subst hty
        obtain ⟨i1, ty1, r1, sz, isz, i3, ty3, i4, ty4, r4, b, sb, rfl, hk1, hl, hk3, hk4, hb, rfl, rfl⟩ :=
          typeExpr_array _ _ _ _ _ _ _ hs
        obtain ⟨_, h1⟩ := Parses.expect_token ((hat.clearErr ctx).tail ctx) hk1
        have h2 := (intLit_ok ctx (h1 .MissingTrailingSemic).at_ hl).parses
        obtain ⟨_, h3⟩ := Parses.expect_token h2.at_ hk3
        obtain ⟨_, h4⟩ := Parses.expect_token (h3 .MissingTrailingSemic).at_ hk4
        have hlen := h2.length_le (h1 .MissingTrailingSemic).at_
        have hat4 := (h4 .MissingTrailingSemic).at_
        -- the base type, under its own reference
        have h5 := Good.ref hat4 (parseT := parseTypeExpr ctx f) (v := fun p => relType p b)
          (typeExpr_conf fs r4 b sb rest hb f _ (hat4.reref ctx) (by simp only [List.length_cons] at hfm hlen; omega))
        exact Good.alt2_left (Good.kw hat rfl (fun _ => (h1 _).bind (h2.expect.bind ((h3 _).bind ((h4 _).bind
          (h5.expect.ret _))))) rfl)
      · rw [typeExpr_other _ _ _ _ _ hty] at hs
        cases ty with
        | Ident name =>
          cases hs
          obtain ⟨hN, _, _, hlead⟩ := hat.head
          have hid := ident_ok hat
          exact Good.alt2_right (kw_fail hat (head_ne Kind.noConfusion)) ⟨by simp only [pmap, hid.eq, relType], hN, Nat.le_refl _,
            by simp only [TypeExpr.info, mkIdent, mkInfo, hlead], hid.at_⟩
        | _ => cases hs

theorem refParse_ok {α} (parseT : Option α → P α) (s : St) (a : α) (j : Nat)
    (h : parseT none { s with refPos := s.pos } = .ok { s with refPos := s.pos, pos := j } a) (href : s.refPos ≤ s.pos) :
    refParse parseT none s = .ok { s with pos := j } ⟨a, s.pos - s.refPos⟩ := by
  simp only [refParse, Option.isSome_none, Bool.false_eq_true, Nat.not_lt.mpr href, if_false, Option.map_none, h]

theorem refParse_err {α} (parseT : Option α → P α) (s : St) (h : IsErr (parseT none { s with refPos := s.pos }))
    (href : s.refPos ≤ s.pos) : IsErr (refParse parseT none s) := by
  obtain ⟨k, s', h⟩ := h
  exact ⟨k, { s' with refPos := s.refPos, incRefs := s'.incRefs.dropLast },
    by simp only [refParse, Nat.not_lt.mpr href, if_false, Option.map_none, h]⟩

theorem peek_ok {α} (p : P α) (s s' : St) (a : α) (h : p s = .ok s' a) : peek p s = .ok s a := by
  simp only [peek, h]

theorem peek_err {α} (p : P α) (s : St) (h : IsErr (p s)) : IsErr (peek p s) := by
  obtain ⟨k, s', h⟩ := h
  exact ⟨k, s', by simp only [peek, h]⟩

theorem void_err {α} (p : P α) (s : St) (h : IsErr (p s)) : IsErr (void p s) := pmap_err _ _ _ h

/-- the token items in front of a look-ahead set: the one of the next token's kind `kd` accepts; if
    there is none, the rest of the set decides -/
theorem altList_voidtk {s s1 : St} {t : Token} {kd : Kind}
    (htk : ∀ k, tk ctx k s = if kd == k then .ok s1 t else .err false s) (ks : List Kind) (qs : List (P Unit)) :
    (kd ∈ ks → altList (ks.map (fun k => void (tk ctx k)) ++ qs) s = .ok s1 ()) ∧
    (kd ∉ ks → altList (ks.map (fun k => void (tk ctx k)) ++ qs) s = altList qs s) :=
  altList_kinds (fun k => by simp only [void, pmap, htk k]; cases kd == k <;> rfl) ks qs

theorem lookAhead_succ (fuel d : Nat) (n : LAName) :
    lookAhead ctx fuel (d + 1) n = altList ((Gen.lookAheadSet n).map (fun item =>
      match item with
      | .tok k => void (tk ctx k)
      | .identThen ks => void (Parse.bind (parseIdentifier ctx none) (fun _ => altList (ks.map (tk ctx))))
      | .sub m => lookAhead ctx fuel d m)) := rfl

theorem la_param_ok {s : St} {i : Nat} {ty : TokenType} {rest : Toks} (h : At ctx s (⟨i, ty⟩ :: rest))
    (hk : ty.kind = .RParen ∨ ty.kind = .Comma) :
    peek (la ctx .param_dec) s = .ok s () ∧ peek (la ctx .arg) s = .ok s () := by
  obtain ⟨t, _, _, _, _, htk⟩ := tk_head ctx h
  have key : ∀ d, lookAhead ctx 0 (d + 1) .param_dec s = .ok { s with pos := i + 1 } () := fun d => by
    rw [lookAhead_succ]
    simp only [Gen.lookAheadSet, List.map_cons, List.map_nil]
    exact (altList_voidtk ctx htk [.RParen, .Comma] [_]).1 (by rcases hk with e | e <;> rw [e] <;> decide)
  refine ⟨peek_ok _ _ _ _ (key 7), peek_ok _ _ { s with pos := i + 1 } _ ?_⟩
  show lookAhead ctx 0 (7 + 1) .arg s = _
  rw [lookAhead_succ]
  simp only [Gen.lookAheadSet, List.map_cons, List.map_nil, altList]
  exact key 6

/-- `look_ahead::stmt` accepts `}`.  Stated with `Next` rather than `At`: `Statement::parse::parse_error`
    tests it behind the doc comments it has skipped, a position that is not directly behind a token. -/
theorem la_stmt_rcurly' (s : St) (i : Nat) (t : Token) (hN : Next ctx.toks s.pos i) (ht : ctx.toks[i]? = some t)
    (hty : t.ty = .RCurly) : la ctx .stmt s = .ok { s with pos := i + 1 } () :=
  (altList_voidtk ctx (fun k => tagK_next ctx s i t k hN ht) [.LCurly, .RCurly, .Semic, .If, .While] _).1 (by rw [hty]; decide)

theorem la_stmt_rcurly {s : St} {i : Nat} {rest : Toks} (h : At ctx s (⟨i, .RCurly⟩ :: rest)) :
    la ctx .stmt s = .ok { s with pos := i + 1 } () :=
  let ⟨hN, ⟨t, ht, hty⟩, _⟩ := h.head
  la_stmt_rcurly' ctx s i t hN ht hty

theorem relStmt_info (r : Nat) (t : Stmt) : (relStmt r t).info = relInfo r t.info := by
  cases t <;> rfl

def GoodS (s : St) (res : Res Stmt) (t : Stmt) (sp : Span) (rest : Toks) : Prop :=
  Good ctx s res (relStmt s.refPos t) t.info.range sp rest

theorem ofList_relRefs (base : Nat) : ∀ ss : StmtList, StmtList.ofList (ss.toList.map (relRefStmt base)) = relStmtList base ss
  | .nil => rfl
  | .cons t o r => by simp only [StmtList.toList, List.map_cons, StmtList.ofList, relRefStmt, relStmtList, ofList_relRefs base r]

structure SConf (fs : Nat) : Prop where
  stmt : ∀ ts t sp rest, Grammar.stmt (G ctx) fs ts = some (t, sp, rest) → ∀ fm s, At ctx s ts → 2 * ts.length + 2 ≤ fm →
    GoodS ctx s (parseStmt ctx fm none s) t sp rest
  stmts : ∀ ts ss rest, Grammar.stmts (G ctx) fs ts = some (ss, rest) → ∀ fm lf s, At ctx s ts → 2 * ts.length + 2 ≤ fm →
    ts.length < lf →
    ∃ j, Parses ctx (many0 (refParse (parseStmt ctx fm) none) lf) s (ss.toList.map (relRefStmt s.refPos)) j rest ∧
      ∃ i r, rest = ⟨i, .RCurly⟩ :: r

theorem refExpr_parses {fs : Nat} {ts rest : Toks} {e : Expr} {sp : Span} {s : St}
    (hs : expr (G ctx) fs ts = some (e, sp, rest)) (hat : At ctx s ts) :
    Parses ctx (refExpr ctx none) s (relRefExpr s.refPos (refAbs e)) (sp.last + 1) rest :=
  Good.ref hat (parseT := parseExpression ctx (exprFuel ctx)) (v := fun b => relExpr b e)
    (expression_conforms ctx hs hat.reref)

theorem refStmt_parses {fs : Nat} (ih : SConf ctx fs) {ts rest : Toks} {t : Stmt} {sp : Span} {s : St} {fm : Nat}
    (hs : Grammar.stmt (G ctx) fs ts = some (t, sp, rest)) (hat : At ctx s ts) (hfm : 2 * ts.length + 2 ≤ fm) :
    Parses ctx (refParse (parseStmt ctx fm) none) s (relRefStmt s.refPos (refAbs t)) (sp.last + 1) rest :=
  Good.ref hat (parseT := parseStmt ctx fm) (v := fun b => relStmt b t) (ih.stmt ts t sp rest hs fm _ hat.reref hfm)

theorem stmt_if_flat (g : GCtx) (fs i : Nat) (r rest : Toks) (t : Stmt) (sp : Span)
    (h : Grammar.stmt g (fs + 1) (⟨i, .If⟩ :: r) = some (t, sp, rest)) :
    ∃ ilp tylp r1 c spc irp tyrp r3 th st r4,
      r = ⟨ilp, tylp⟩ :: r1 ∧ (tylp.kind == Kind.LParen) = true ∧
      expr g (8 * r1.length + 16) r1 = some (c, spc, ⟨irp, tyrp⟩ :: r3) ∧ (tyrp.kind == Kind.RParen) = true ∧
      Grammar.stmt g fs r3 = some (th, st, r4) ∧
      ((∃ ie r5 e se, r4 = ⟨ie, .Else⟩ :: r5 ∧ Grammar.stmt g fs r5 = some (e, se, rest) ∧
          t = .ifS (some (refAbs c)) (.some th 0) (.some e 0) (mkInfo g i se.last) ∧ sp = ⟨i, se.last⟩) ∨
       ((∀ ie r5, r4 ≠ ⟨ie, .Else⟩ :: r5) ∧ rest = r4 ∧
          t = .ifS (some (refAbs c)) (.some th 0) .none (mkInfo g i st.last) ∧ sp = ⟨i, st.last⟩)) := by
  simp only [Grammar.stmt] at h
  split at h
  · cases h
  · rename_i x1 r1 h1
    obtain ⟨ty1, e1, k1⟩ := expectK_some _ _ _ _ h1
    split at h
    · cases h
    · rename_i c spc r2 h2
      split at h
      · cases h
      · rename_i x3 r3 h3
        obtain ⟨ty3, e3, k3⟩ := expectK_some _ _ _ _ h3
        subst e3
        split at h
        · cases h
        · rename_i th st r4 h4
          refine ⟨x1, ty1, r1, c, spc, x3, ty3, r3, th, st, r4, e1, k1, h2, k3, h4, ?_⟩
          split at h
          · rename_i ie r5
            split at h
            · rename_i e se r6 h6
              simp only [Option.some.injEq, Prod.mk.injEq] at h
              obtain ⟨rfl, rfl, rfl⟩ := h
              exact Or.inl ⟨ie, r5, e, se, rfl, h6, rfl, rfl⟩
            · cases h
          · rename_i hne
            simp only [Option.some.injEq, Prod.mk.injEq] at h
            obtain ⟨rfl, rfl, rfl⟩ := h
            exact Or.inr ⟨fun ie r5 e => hne ie r5 e, rfl, rfl, rfl⟩

theorem stmt_while_flat (g : GCtx) (fs i : Nat) (r rest : Toks) (t : Stmt) (sp : Span)
    (h : Grammar.stmt g (fs + 1) (⟨i, .While⟩ :: r) = some (t, sp, rest)) :
    ∃ ilp tylp r1 c spc irp tyrp r3 b sb,
      r = ⟨ilp, tylp⟩ :: r1 ∧ (tylp.kind == Kind.LParen) = true ∧
      expr g (8 * r1.length + 16) r1 = some (c, spc, ⟨irp, tyrp⟩ :: r3) ∧ (tyrp.kind == Kind.RParen) = true ∧
      Grammar.stmt g fs r3 = some (b, sb, rest) ∧
      t = .whileS (some (refAbs c)) (.some b 0) (mkInfo g i sb.last) ∧ sp = ⟨i, sb.last⟩ := by
  simp only [Grammar.stmt] at h
  split at h
  · cases h
  · rename_i x1 r1 h1
    obtain ⟨ty1, e1, k1⟩ := expectK_some _ _ _ _ h1
    split at h
    · cases h
    · rename_i c spc r2 h2
      split at h
      · cases h
      · rename_i x3 r3 h3
        obtain ⟨ty3, e3, k3⟩ := expectK_some _ _ _ _ h3
        subst e3
        split at h
        · cases h
        · rename_i b sb r4 h4
          simp only [Option.some.injEq, Prod.mk.injEq] at h
          obtain ⟨rfl, rfl, rfl⟩ := h
          exact ⟨x1, ty1, r1, c, spc, x3, ty3, r3, b, sb, e1, k1, h2, k3, h4, rfl, rfl⟩

theorem stmt_block_flat (g : GCtx) (fs i : Nat) (r rest : Toks) (t : Stmt) (sp : Span)
    (h : Grammar.stmt g (fs + 1) (⟨i, .LCurly⟩ :: r) = some (t, sp, rest)) :
    ∃ ss j tyj, Grammar.stmts g fs r = some (ss, ⟨j, tyj⟩ :: rest) ∧ (tyj.kind == Kind.RCurly) = true ∧
      t = .block ss (mkInfo g i j) ∧ sp = ⟨i, j⟩ := by
  simp only [Grammar.stmt] at h
  split at h
  · cases h
  · rename_i ss r1 h1
    split at h
    · rename_i j r2 h2
      obtain ⟨tyj, e2, k2⟩ := expectK_some _ _ _ _ h2
      subst e2
      simp only [Option.some.injEq, Prod.mk.injEq] at h
      obtain ⟨rfl, rfl, rfl⟩ := h
      exact ⟨ss, j, tyj, h1, k2, rfl, rfl⟩
    · cases h

theorem stmt_call_flat (g : GCtx) (fs i ilp : Nat) (nm : List Char) (r rest : Toks) (t : Stmt) (sp : Span)
    (h : Grammar.stmt g (fs + 1) (⟨i, .Ident nm⟩ :: ⟨ilp, .LParen⟩ :: r) = some (t, sp, rest)) :
    ∃ as irp tyrp j tyj,
      ((∃ k r', r = ⟨k, .RParen⟩ :: r' ∧ as = [] ∧ r = ⟨irp, tyrp⟩ :: ⟨j, tyj⟩ :: rest) ∨
       ((∀ k r', r ≠ ⟨k, .RParen⟩ :: r') ∧ exprList g (r.length + 1) r = some (as, ⟨irp, tyrp⟩ :: ⟨j, tyj⟩ :: rest))) ∧
      (tyrp.kind == Kind.RParen) = true ∧ (tyj.kind == Kind.Semic) = true ∧
      t = .call { name := mkIdent g i nm, args := as, info := mkInfo g i j } ∧ sp = ⟨i, j⟩ := by
  simp only [Grammar.stmt] at h
  split at h
  · cases h
  · rename_i as r1 h1
    split at h
    · cases h
    · rename_i x2 r2 h2
      obtain ⟨ty2, e2, k2⟩ := expectK_some _ _ _ _ h2
      subst e2
      split at h
      · rename_i j r3 h3
        obtain ⟨ty3, e3, k3⟩ := expectK_some _ _ _ _ h3
        subst e3
        simp only [Option.some.injEq, Prod.mk.injEq] at h
        obtain ⟨rfl, rfl, rfl⟩ := h
        refine ⟨as, x2, ty2, j, ty3, ?_, k2, k3, rfl, rfl⟩
        split at h1
        · rename_i k r'
          simp only [Option.some.injEq, Prod.mk.injEq] at h1
          obtain ⟨rfl, e⟩ := h1
          exact Or.inl ⟨k, r', rfl, rfl, e⟩
        · rename_i hne
          exact Or.inr ⟨fun k r' e => hne k r' e, h1⟩
      · cases h

theorem stmt_assign_flat (g : GCtx) (fs i : Nat) (nm : List Char) (r rest : Toks) (t : Stmt) (sp : Span)
    (hnc : ∀ k r', r ≠ ⟨k, .LParen⟩ :: r')
    (h : Grammar.stmt g (fs + 1) (⟨i, .Ident nm⟩ :: r) = some (t, sp, rest)) :
    ∃ v sv ias tyas r1 e se j tyj,
      varAccess g (8 * (⟨i, .Ident nm⟩ :: r : Toks).length + 16) (⟨i, .Ident nm⟩ :: r) = some (v, sv, ⟨ias, tyas⟩ :: r1) ∧
      (tyas.kind == Kind.Assign) = true ∧
      expr g (8 * r1.length + 16) r1 = some (e, se, ⟨j, tyj⟩ :: rest) ∧ (tyj.kind == Kind.Semic) = true ∧
      t = .assign { target := v, expr := some (refAbs e), info := mkInfo g i j } ∧ sp = ⟨i, j⟩ := by
  simp only [Grammar.stmt] at h
  split at h
  · cases h
  · rename_i v sv r0 h0
    split at h
    · cases h
    · rename_i x1 r1 h1
      obtain ⟨ty1, e1, k1⟩ := expectK_some _ _ _ _ h1
      subst e1
      split at h
      · cases h
      · rename_i e se r2 h2
        split at h
        · rename_i j r3 h3
          obtain ⟨ty3, e3, k3⟩ := expectK_some _ _ _ _ h3
          subst e3
          simp only [Option.some.injEq, Prod.mk.injEq] at h
          obtain ⟨rfl, rfl, rfl⟩ := h
          exact ⟨v, sv, x1, ty1, r1, e, se, j, ty3, h0, k1, h2, k3, rfl, rfl⟩
        · cases h

theorem call_fail {s : St} (hb : IsErr (callInner ctx none none { s with errBuf := [] })) (href : s.refPos ≤ s.pos) :
    IsErr (pmap Stmt.call (parseCall ctx none) s) :=
  pmap_err _ _ _ (pmap_err _ (info (callInner ctx none none)) _ (info_err _ s hb href))

theorem At.cons_length {s s' : St} {t : ITok} {r ts : Toks} (_h : At ctx s (t :: r)) (h' : At ctx s' ts)
    (hpos : t.idx + 1 ≤ s'.pos) (hr : r = tsFrom ctx.toks (t.idx + 1)) : ts.length ≤ r.length :=
  hr ▸ h'.toks ▸ tsFrom_length_mono _ hpos

theorem many_none {α} (range : α → Range) (parseT : Option α → P α) (fuel : Nat) (s : St) :
    many ctx range parseT fuel none s = many0 (refParse parseT none) fuel s := by
  simp only [many, Option.getD, manyOld, List.nil_append]
  cases many0 (refParse parseT none) fuel s <;> rfl

theorem Parses.many {α} {range : α → Range} {parseT : Option α → P α} {fuel : Nat} {s : St} {a : List (Ref α)} {j : Nat}
    {rest : Toks} (h : Parses ctx (many0 (refParse parseT none) fuel) s a j rest) :
    Parses ctx (Parse.many ctx range parseT fuel none) s a j rest :=
  ⟨(many_none ..).trans h.eq, h.le, h.at_⟩

/-! A derivable expression starts with `-`, `(`, an identifier or a literal: on any other token `factor`,
    and with it `mul`, `add` and `expr`, derive nothing. -/
section
variable {g : GCtx} {i : Nat} {ty : TokenType} {r : Toks} (h : ty.kind ∉ [Kind.Minus, .LParen, .Ident, .Int, .Hex, .Char])
include h

theorem factor_none : ∀ fs, factor g fs (⟨i, ty⟩ :: r) = none
  | 0 => rfl
  | fs + 1 => by cases ty <;> first | rfl | exact absurd (List.mem_of_elem_eq_true rfl) h

theorem mul_none : ∀ fs, Grammar.mul g fs (⟨i, ty⟩ :: r) = none
  | 0 => rfl
  | fs + 1 => by rw [Grammar.mul, factor_none h]

theorem add_none : ∀ fs, Grammar.add g fs (⟨i, ty⟩ :: r) = none
  | 0 => rfl
  | fs + 1 => by rw [Grammar.add, mul_none h]

theorem expr_none : ∀ fs, expr g fs (⟨i, ty⟩ :: r) = none
  | 0 => rfl
  | fs + 1 => by rw [Grammar.expr, add_none h]

end

def RParenHead (ts : Toks) : Prop := ∃ i ty r, ts = ⟨i, ty⟩ :: r ∧ ty.kind = .RParen

def CommaOrRParen (ts : Toks) : Prop := ∃ i ty r, ts = ⟨i, ty⟩ :: r ∧ (ty.kind = .RParen ∨ ty.kind = .Comma)

/-! Comma-separated lists (`parse_list`).

  `exprList` and `params` of the specification have one shape (`SepList`): an element, then, behind
  a comma, the rest.  `parse_list` parses the first element under a `Reference` and every further
  one under two (`CommaPreceded` and the element's own), which it merges afterwards (`flattenRef`). -/

/-- `CommaPreceded` of `parse_list`: a comma, then the element under its own reference -/
def commaThen {α} (parseT : Option α → P α) (this : Option (Ref α)) : P (Ref α) :=
  Parse.bind (tk ctx .Comma) (fun _ => refParse parseT this)

def flattenRef {α} (r : Ref (Ref α)) : Ref α := ⟨r.val.val, r.offset + r.val.offset⟩

/-- a referenced node in the implementation's convention: `v` re-bases the node on its own start
    `lo`, the offset is relative to `b` -/
def rebase {α} (v : α → α) (lo : α → Nat) (b : Nat) (r : Ref α) : Ref α := ⟨v r.val, lo r.val - b⟩

/-- what a list function of the specification does behind an element -/
def sepTail {α} (list : Nat → Toks → Option (List (Ref α) × Toks)) (fl : Nat) (ts : Toks) :
    Option (List (Ref α) × Toks) :=
  match ts with
  | ⟨_, .Comma⟩ :: r1 => list fl r1
  | _ => some ([], ts)

/-- `list` derives `elem (, elem)*`, by fuel -/
structure SepList {α} (elem : Toks → Option (α × Toks)) (list : Nat → Toks → Option (List (Ref α) × Toks)) : Prop where
  zero : ∀ ts, list 0 ts = none
  succ : ∀ fl ts, list (fl + 1) ts = match elem ts with
    | none => none
    | some (e, r) => (sepTail list fl r).map (fun q => (refAbs e :: q.1, q.2))

/-- conformance of one element under its own reference when a comma or `)` follows: `v e` is the
    element in the implementation's convention, `lo e` where it starts -/
def ElemConf {α} (parseT : Option α → P α) (elem : Toks → Option (α × Toks)) (v : α → α) (lo : α → Nat) : Prop :=
  ∀ ts e r s, elem ts = some (e, r) → At ctx s ts → CommaOrRParen r →
    ∃ j, Parses ctx (refParse parseT none) s ⟨v e, s.pos - s.refPos⟩ j r ∧ lo e = s.pos ∧ s.pos < j

section
variable {α : Type} (parseT : Option α → P α) {elem : Toks → Option (α × Toks)}
  {list : Nat → Toks → Option (List (Ref α) × Toks)}

theorem sepTail_cases (list : Nat → Toks → Option (List (Ref α) × Toks)) (fl : Nat) (ts : Toks) :
    (∃ i r, ts = ⟨i, .Comma⟩ :: r ∧ sepTail list fl ts = list fl r) ∨
    ((∀ i ty r, ts = ⟨i, ty⟩ :: r → ty.kind ≠ .Comma) ∧ sepTail list fl ts = some ([], ts)) := by
  by_cases h : ∃ i r, ts = ⟨i, .Comma⟩ :: r
  · obtain ⟨i, r, rfl⟩ := h
    exact .inl ⟨i, r, rfl, rfl⟩
  · refine .inr ⟨fun i ty r e hk => h ⟨i, r, by rw [e, kind_plain rfl hk]⟩, ?_⟩
    rw [sepTail]
    exact fun i r e => h ⟨i, r, e⟩

theorem SepList.succ_some (hl : SepList elem list) {fl : Nat} {ts r2 : Toks} {es : List (Ref α)}
    (h : list (fl + 1) ts = some (es, r2)) :
    ∃ e r es', elem ts = some (e, r) ∧ sepTail list fl r = some (es', r2) ∧ es = refAbs e :: es' := by
  rw [hl.succ] at h
  cases he : elem ts with
  | none => rw [he] at h; cases h
  | some res =>
    rw [he] at h
    obtain ⟨⟨es', _⟩, htl, hp⟩ := Option.map_eq_some_iff.mp h
    cases hp
    exact ⟨res.1, res.2, es', rfl, htl, rfl⟩

theorem sepTail_next {fl : Nat} {r' r2 : Toks} {es : List (Ref α)} (htl : sepTail list fl r' = some (es, r2))
    (hr2 : RParenHead r2) : CommaOrRParen r' := by
  rcases sepTail_cases list fl r' with ⟨i, r, rfl, _⟩ | ⟨_, e⟩
  · exact ⟨i, .Comma, r, rfl, Or.inr rfl⟩
  · rw [e] at htl; cases htl
    obtain ⟨i, ty, r, rfl, hk⟩ := hr2
    exact ⟨i, ty, r, rfl, Or.inl hk⟩

theorem SepList.forall (hl : SepList elem list) (P : Ref α → Prop) (hP : ∀ ts e r, elem ts = some (e, r) → P (refAbs e)) :
    ∀ (fl : Nat) (ts : Toks) (es : List (Ref α)) (r : Toks), list fl ts = some (es, r) → ∀ x ∈ es, P x
  | 0, ts, es, r, h => by rw [hl.zero] at h; cases h
  | fl + 1, ts, es, r, h => by
    obtain ⟨e, r0, es', he, htl, rfl⟩ := hl.succ_some h
    refine List.forall_mem_cons.mpr ⟨hP _ _ _ he, ?_⟩
    rcases sepTail_cases list fl r0 with ⟨i, r1, rfl, e1⟩ | ⟨_, e1⟩
    · exact hl.forall P hP fl _ _ _ (e1 ▸ htl)
    · rw [e1] at htl; cases htl; exact fun _ hm => nomatch hm

theorem sepTail_conf (hl : SepList elem list) (v : α → α) (lo : α → Nat) (helem : ElemConf ctx parseT elem v lo) :
    ∀ (fl : Nat) (ts : Toks) (es : List (Ref α)) (r2 : Toks), sepTail list fl ts = some (es, r2) → RParenHead r2 →
    ∀ (lf : Nat) (s : St), At ctx s ts → ts.length < lf →
    ∃ j tail, Parses ctx (many0 (refParse (commaThen ctx parseT) none) lf) s tail j r2 ∧
      tail.map flattenRef = es.map (rebase v lo s.refPos)
  | _, _, _, _, _, _, 0, _, _, hlf => absurd hlf (Nat.not_lt_zero _)
  | fl, ts, es, r2, hs, hr2, lf + 1, s, hat, hlf => by
    rcases sepTail_cases list fl ts with ⟨ic, r1, rfl, e⟩ | ⟨hne, e⟩
    · rw [e] at hs
      match fl, hs with
      | 0, hs => rw [hl.zero] at hs; cases hs
      | fl + 1, hs =>
        obtain ⟨e0, r', es', he, htl, rfl⟩ := hl.succ_some hs
        -- `,` and the element, both under the reference that starts here
        obtain ⟨_, _, hcm⟩ := Parses.token hat.reref (k := .Comma) rfl
        obtain ⟨jp, ha, hlo, hpa⟩ := helem r1 e0 r' _ he hcm.at_ (sepTail_next htl hr2)
        have hround := refParse_ok (commaThen ctx parseT) s ⟨v e0, ic + 1 - s.pos⟩ jp
          (by simp only [commaThen, Parse.bind, hcm.eq, ha.eq]) hat.ref
        have hic : s.pos ≤ ic := hat.head.1.le
        have hjp : ic + 1 < jp := hpa
        have hat2 : At ctx { s with pos := jp } r' := ha.at_.congr ctx rfl (by have := hat.ref; show s.refPos ≤ jp; omega)
        obtain ⟨j, tail, g1, g2⟩ := sepTail_conf hl v lo helem fl r' es' _ htl hr2 lf { s with pos := jp } hat2
          (by have := ha.length_le hcm.at_; simp only [List.length_cons] at hlf; omega)
        refine ⟨j, ⟨⟨v e0, ic + 1 - s.pos⟩, s.pos - s.refPos⟩ :: tail,
          ⟨many0_cons hround (by show jp ≠ s.pos; omega) g1.eq, by have : jp ≤ j := g1.le; omega, g1.at_⟩, ?_⟩
        have hoff : s.pos - s.refPos + (ic + 1 - s.pos) = lo e0 - s.refPos := by
          have := hat.ref; have : lo e0 = ic + 1 := hlo; omega
        simp only [List.map_cons, g2, flattenRef, rebase, refAbs, hoff]
    · -- no comma here: the loop stops
      rw [e] at hs; cases hs
      exact ⟨s.pos, [], ⟨many0_nil (refParse_err _ s (bind_err _ _ _ (tagK_fail ctx hat.reref .Comma hne)) hat.ref),
        Nat.le_refl _, hat⟩, rfl⟩

theorem sepList_conf (range : α → Range) (hl : SepList elem list) (v : α → α) (lo : α → Nat)
    (helem : ElemConf ctx parseT elem v lo) {fl : Nat} {ts r2 : Toks} {es : List (Ref α)} {s : St}
    (hs : list fl ts = some (es, r2)) (hr2 : RParenHead r2) (hat : At ctx s ts) :
    ∃ j, Parses ctx (parseList ctx range parseT (loopFuel ctx) none) s (es.map (rebase v lo s.refPos)) j r2 := by
  cases fl with
  | zero => rw [hl.zero] at hs; cases hs
  | succ fl =>
    obtain ⟨e0, r', es', he, htl, rfl⟩ := hl.succ_some hs
    obtain ⟨jp, ha, hlo, hpa⟩ := helem ts e0 r' s he hat (sepTail_next htl hr2)
    obtain ⟨j, tail, g1, g2⟩ := sepTail_conf ctx parseT hl v lo helem fl r' es' _ htl hr2 (loopFuel ctx) _ ha.at_
      (loopFuel_gt ctx ha.at_)
    have g1' : many ctx (fun (inner : Ref α) => let r := range inner.val; (⟨r.lo, r.hi + 1⟩ : Range))
        (fun this => Parse.bind (tagK ctx (loopFuel ctx) .Comma) (fun _ => refParse parseT this))
        (loopFuel ctx) none { s with pos := jp } = .ok { s with pos := j } tail := (many_none ..).trans g1.eq
    refine ⟨j, ?_, Nat.le_trans ha.le g1.le, g1.at_⟩
    simp only [parseList, ha.eq, Option.getD, List.any_nil, Bool.false_eq_true, if_false, Option.map_none, g1', List.map_cons,
      rebase, refAbs, hlo]
    exact congrArg (fun l => Res.ok _ (_ :: l)) g2

/-- the list between parentheses: nothing in front of `)`, which the look-ahead `)`, `x`, end of file
    finds, otherwise `parse_list`, whose first token (one of `starts`) is none of these -/
theorem optList_conf (range : α → Range) (hl : SepList elem list) (v : α → α) (lo : α → Nat)
    (helem : ElemConf ctx parseT elem v lo) {x : Kind} {starts : List Kind}
    (hhead : ∀ i ty r e r', elem (⟨i, ty⟩ :: r) = some (e, r') → ty.kind ∈ starts)
    (hdisj : ∀ k ∈ starts, k ∉ [.RParen, x, .Eof]) {ts r2 : Toks} {es : List (Ref α)} {s : St}
    (hs : (∃ k r', ts = ⟨k, .RParen⟩ :: r' ∧ es = [] ∧ ts = r2) ∨
      ((∀ k r', ts ≠ ⟨k, .RParen⟩ :: r') ∧ list (ts.length + 1) ts = some (es, r2)))
    (hr2 : RParenHead r2) (hat : At ctx s ts) :
    ∃ j, Parses ctx (alt2 (pmap (fun _ => ([] : List (Ref α)))
        (peek (altList [void (tk ctx .RParen), void (tk ctx x), void (tk ctx .Eof)])))
      (parseList ctx range parseT (loopFuel ctx) none)) s (es.map (rebase v lo s.refPos)) j r2 := by
  rcases hs with ⟨k, r', rfl, rfl, rfl⟩ | ⟨_, hlist⟩
  · obtain ⟨_, _, _, _, _, htk⟩ := tk_head ctx hat
    have hp : peek (altList [void (tk ctx .RParen), void (tk ctx x), void (tk ctx .Eof)]) s = .ok s () :=
      peek_ok _ _ _ _ ((altList_voidtk ctx htk [.RParen, x, .Eof] []).1 List.mem_cons_self)
    exact ⟨s.pos, alt2_ok_left _ _ _ _ _ (by simp only [pmap, hp]; rfl), Nat.le_refl _, hat⟩
  · obtain ⟨e, r, es', he, _⟩ := hl.succ_some hlist
    obtain ⟨j, hp⟩ := sepList_conf ctx parseT range hl v lo helem hlist hr2 hat
    have f : ∀ k ∈ [Kind.RParen, x, .Eof], IsErr (void (tk ctx k) s) := fun k hk =>
      void_err _ _ (tagK_fail ctx hat k fun i ty r0 e' hty => hdisj _ (hhead i ty r0 e r (e' ▸ he)) (hty ▸ hk))
    exact ⟨j, hp.alt2_right (pmap_err _ _ _ (peek_err _ _
      (.cons (f _ (.head _)) (.cons (f _ (.tail _ (.head _))) (.cons (f _ (.tail _ (.tail _ (.head _)))) .nil)))))⟩

end

theorem exprList_sepList (g : GCtx) :
    SepList (fun ts => (expr g (8 * ts.length + 16) ts).map (fun (p : Expr × Span × Toks) => (p.1, p.2.2))) (exprList g) where
  zero _ := rfl
  succ fl ts := by
    cases he : expr g (8 * ts.length + 16) ts with
    | none => simp only [Grammar.exprList, he, Option.map_none]
    | some res =>
      obtain ⟨e, sp, r⟩ := res
      simp only [Grammar.exprList, he, Option.map_some]
      cases r with
      | nil => rfl
      | cons t r1 =>
        obtain ⟨ic, ty⟩ := t
        cases ty <;> first
          | rfl
          | (simp only [sepTail]; cases exprList g fl r1 <;> rfl)

theorem arg_elem : ElemConf ctx (parseArgument ctx)
    (fun ts => (expr (G ctx) (8 * ts.length + 16) ts).map (fun (p : Expr × Span × Toks) => (p.1, p.2.2)))
    (fun e => relExpr e.info.range.lo e) (fun e => e.info.range.lo) := by
  intro ts e r s he hat hnext
  obtain ⟨⟨e', sp, r'⟩, he', hp⟩ := Option.map_eq_some_iff.mp he
  cases hp
  obtain ⟨i, ty, r, rfl, hk⟩ := hnext
  have hg := expression_conforms ctx he' hat.reref
  have hlo : e'.info.range.lo = s.pos := by rw [hg.2.2.2.1]
  have h := Good.ref hat (parseT := parseArgument ctx) (v := fun b => relExpr b e') (rng := e'.info.range)
    ⟨alt2_ok_left _ _ _ _ _ (by simp only [Parse.bind, hg.1, (la_param_ok ctx hg.2.2.2.2 hk).2, pure']), hg.2⟩
  exact ⟨sp.last + 1, hlo ▸ h, hlo, Nat.lt_succ_of_le (Nat.le_trans hg.2.1.le hg.2.2.1)⟩

/-- `commaThen` for call arguments, with the fuel of the comma's token parser as a parameter -/
def cpParse (fuel : Nat) (this : Option (Ref Expr)) : P (Ref Expr) :=
  Parse.bind (tagK ctx fuel .Comma) (fun _ => refParse (parseArgument ctx) this)

def cpConv (r : Ref (Ref Expr)) : Ref Expr := ⟨r.val.val, r.offset + r.val.offset⟩

/-- what `exprList` does behind an expression -/
def exprListTail (g : GCtx) (fl : Nat) (ts : Toks) : Option (List (Ref Expr) × Toks) :=
  match ts with
  | ⟨_, .Comma⟩ :: r1 => exprList g fl r1
  | _ => some ([], ts)

theorem argsTail_conf : ∀ (fl : Nat) (ts : Toks) (es : List (Ref Expr)) (r2 : Toks),
    exprListTail (G ctx) fl ts = some (es, r2) → RParenHead r2 →
    ∀ (lf : Nat) (s : St), At ctx s ts → ts.length < lf →
    ∃ j tail, many0 (refParse (cpParse ctx (loopFuel ctx)) none) lf s = .ok { s with pos := j } tail ∧
      tail.map cpConv = es.map (relRefExpr s.refPos) ∧ s.pos ≤ j ∧ At ctx { s with pos := j } r2
  | fl, ts, es, r2, hs, hr2, lf, s, hat, hlf =>
    let ⟨j, tail, h, e⟩ := sepTail_conf ctx (parseArgument ctx) (exprList_sepList (G ctx)) _ _ (arg_elem ctx) fl ts es r2 hs hr2
      lf s hat hlf
    ⟨j, tail, h.eq, e, h.le, h.at_⟩

theorem args_conf {fl : Nat} {ts r2 : Toks} {es : List (Ref Expr)} {s : St}
    (hs : exprList (G ctx) fl ts = some (es, r2)) (hr2 : RParenHead r2) (hat : At ctx s ts) :
    ∃ j, parseList ctx (fun (e : Expr) => e.info.range) (parseArgument ctx) (loopFuel ctx) none s =
        .ok { s with pos := j } (es.map (relRefExpr s.refPos)) ∧ s.pos ≤ j ∧ At ctx { s with pos := j } r2 :=
  let ⟨j, h⟩ := sepList_conf ctx (parseArgument ctx) _ (exprList_sepList (G ctx)) _ _ (arg_elem ctx) hs hr2 hat
  ⟨j, h.eq, h.le, h.at_⟩

theorem next_unique {A : Array Token} {p i i' : Nat} (h : Next A p i) (h' : Next A p i') : i = i' := by
  rcases Nat.lt_trichotomy i i' with hlt | heq | hgt
  · obtain ⟨t, ht, hk⟩ := h'.cmts i h.le hlt
    obtain ⟨t2, ht2, hk2⟩ := h.tok
    cases ht.symm.trans ht2
    exact absurd hk hk2
  · exact heq
  · obtain ⟨t, ht, hk⟩ := h.cmts i' h'.le hgt
    obtain ⟨t2, ht2, hk2⟩ := h'.tok
    cases ht.symm.trans ht2
    exact absurd hk hk2

theorem stmtParseError_fail_rcurly {s : St} {i : Nat} {r : Toks} (hat : At ctx s (⟨i, .RCurly⟩ :: r)) :
    IsErr (stmtParseError ctx s) := by
  obtain ⟨hN, ⟨t, ht, hty⟩, _, _⟩ := hat.head
  have hdoc := docComments_run ctx _ { s with errBuf := [] } i rfl hN
  have hla := la_stmt_rcurly' ctx { s with errBuf := [], pos := i } i t
    ⟨Nat.le_refl _, fun q a b => absurd b (Nat.not_lt.mpr a), hN.tok⟩ ht hty
  obtain ⟨k, s', he⟩ := pmap_err (fun (p : List Token × AstInfo) =>
      Stmt.error { p.2 with errors := p.2.errors ++
        [⟨p.2.range, .UnexpectedCharacters (p.1.flatMap (fun t => displayToken t.ty))⟩] }) _ _
    (info_err (Parse.bind (docComments ctx) (fun _ => ignoreUntil1 ctx (peek (la ctx .stmt)) (loopFuel ctx))) s
      ⟨false, { s with errBuf := [], pos := i }, by simp only [Parse.bind, hdoc, ignoreUntil1, peek_ok _ _ _ _ hla]⟩ hat.ref)
  exact ⟨k, s, by simp only [stmtParseError, he]⟩

theorem fail_empty {s : St} {ts : Toks} (h : At ctx s ts) (hne : ∀ i ty r, ts = ⟨i, ty⟩ :: r → ty.kind ≠ .Semic) :
    IsErr (pmap (fun (p : Token × AstInfo) => Stmt.empty p.2) (info (tk ctx .Semic)) s) :=
  pmap_err _ _ _ (info_err _ _ (tagK_fail ctx h.clearErr .Semic hne) h.ref)

theorem parseStmt_fail_rcurly {s : St} {i : Nat} {r : Toks} (hat : At ctx s (⟨i, .RCurly⟩ :: r)) (f : Nat) :
    IsErr (parseStmt ctx (f + 2) none s) := by
  have hassign : IsErr (pmap Stmt.assign (parseAssignment ctx none) s) :=
    pmap_err _ _ _ (pmap_err _ (info (assignInner ctx none none)) _ (info_err _ s (bind_err _ _ _ (bind_err _ _ _
      (variable_fail ctx hat.clearErr _ (head_ne (by decide))))) hat.ref))
  show IsErr (altList [_, _, _, _, _, _, _] s)
  exact .cons (fail_empty ctx hat (head_ne (by decide))) (.cons (kw_fail hat (head_ne (by decide)))
    (.cons (kw_fail hat (head_ne (by decide))) (.cons (kw_fail hat (head_ne (by decide)))
      (.cons (call_fail ctx (bind_err _ _ _ (bind_err _ _ _ (ident_fail hat.clearErr (head_ne (by decide))))) hat.ref) (.cons hassign (.cons (stmtParseError_fail_rcurly ctx hat) .nil))))))

theorem stmt_head {g : GCtx} {f i : Nat} {ty : TokenType} {r : Toks} {x : Stmt × Span × Toks}
    (h : Grammar.stmt g (f + 1) (⟨i, ty⟩ :: r) = some x) :
    ty = .Semic ∨ ty = .If ∨ ty = .While ∨ ty = .LCurly ∨ ∃ n, ty = .Ident n := by
  cases ty
  case Semic => exact .inl rfl
  case If => exact .inr (.inl rfl)
  case While => exact .inr (.inr (.inl rfl))
  case LCurly => exact .inr (.inr (.inr (.inl rfl)))
  case Ident n => exact .inr (.inr (.inr (.inr ⟨n, rfl⟩)))
  all_goals cases h

theorem stmts_other (g : GCtx) (fs : Nat) (ts : Toks) (h : ∀ i r, ts ≠ ⟨i, .RCurly⟩ :: r) :
    Grammar.stmts g (fs + 1) ts = match Grammar.stmt g fs ts with
      | none => none
      | some (s, _, r) => match Grammar.stmts g fs r with
        | some (ss, r1) => some (.cons s 0 ss, r1)
        | none => none := by
  rw [Grammar.stmts]
  · rfl
  · exact fun i r e => h i r e

theorem stmts_cons_flat (g : GCtx) (fs : Nat) (ts rest : Toks) (ss : StmtList) (hne : ∀ i r, ts ≠ ⟨i, .RCurly⟩ :: r)
    (h : Grammar.stmts g (fs + 1) ts = some (ss, rest)) :
    ∃ t sp r ss', Grammar.stmt g fs ts = some (t, sp, r) ∧ Grammar.stmts g fs r = some (ss', rest) ∧ ss = .cons t 0 ss' := by
  rw [stmts_other _ _ _ hne] at h
  split at h
  · cases h
  · rename_i t sp r h1
    split at h
    · rename_i ss' r1 h2
      cases h
      exact ⟨t, sp, r, ss', h1, h2, rfl⟩
    · cases h

theorem sconf_succ {fs : Nat} (ih : SConf ctx fs) : SConf ctx (fs + 1) where
  stmt := by
    intro ts t sp rest hs fm s hat hfm
    cases ts with
    | nil => cases hs
    | cons t0 r =>
    obtain ⟨i, ty⟩ := t0
    obtain ⟨f, rfl⟩ : ∃ f, fm = f + 2 := ⟨fm - 2, by simp only [List.length_cons] at hfm; omega⟩
    have hf : 2 * r.length + 2 ≤ f := by simp only [List.length_cons] at hfm; omega
    have a0 := hat.clearErr.tail
    show Good ctx s (altList [_, _, _, _, _, _, _] s) _ _ _ _
    rcases stmt_head hs with rfl | rfl | rfl | rfl | ⟨nm, rfl⟩
    · cases hs
      obtain ⟨_, _, h0⟩ := Parses.token hat.clearErr (k := .Semic) rfl
      exact Good.cons (Good.node hat h0 (Nat.le_refl _) rfl)
    · obtain ⟨ilp, tylp, r1, c, spc, irp, tyrp, r3, th, st, r4, rfl, klp, hc, krp, hth, helse⟩ := stmt_if_flat _ _ _ _ _ _ _ hs
      obtain ⟨_, h1⟩ := Parses.expect_token a0 klp
      have h2 := refExpr_parses ctx hc a0.tail
      obtain ⟨_, h3⟩ := Parses.expect_token h2.at_ krp
      have l3 := h2.length_le a0.tail
      have h4 := refStmt_parses ctx ih hth h2.at_.tail (fm := f) (by simp only [List.length_cons] at hf l3; omega)
      have l4 := h4.length_le h2.at_.tail
      refine Good.skip (fail_empty ctx hat (head_ne (by decide))) (Good.cons ?_)
      rcases helse with ⟨ie, r5, e, se, rfl, he, rfl, rfl⟩ | ⟨hne, rfl, rfl, rfl⟩
      · obtain ⟨_, _, h5⟩ := Parses.token h4.at_ (k := .Else) rfl
        have h6 := refStmt_parses ctx ih he h5.at_ (fm := f) (by simp only [List.length_cons] at hf l3 l4; omega)
        exact Good.kw hat rfl (fun _ => (h1 _).bind (h2.expect.bind ((h3 _).bind (h4.expect.bind
          ((Parses.opt (h5.bind h6.expect)).ret _))))) rfl
      · have h5 := Parses.opt_none h4.at_ (p := Parse.bind (tk ctx .Else) (fun _ =>
            Spl.Parse.expect none (refParse (parseStmt ctx f)) (.ExpectedToken (chars "statement"))))
          (bind_err _ _ _ (tagK_fail ctx h4.at_ .Else (fun i' ty' r' e' hk => hne i' r' (by rw [e', kind_plain rfl hk]))))
        exact Good.kw hat rfl (fun _ => (h1 _).bind (h2.expect.bind ((h3 _).bind (h4.expect.bind (h5.ret _))))) rfl
    · obtain ⟨ilp, tylp, r1, c, spc, irp, tyrp, r3, b, sb, rfl, klp, hc, krp, hb, rfl, rfl⟩ := stmt_while_flat _ _ _ _ _ _ _ hs
      obtain ⟨_, h1⟩ := Parses.expect_token a0 klp
      have h2 := refExpr_parses ctx hc a0.tail
      obtain ⟨_, h3⟩ := Parses.expect_token h2.at_ krp
      have l3 := h2.length_le a0.tail
      have h4 := refStmt_parses ctx ih hb h2.at_.tail (fm := f) (by simp only [List.length_cons] at hf l3; omega)
      exact Good.skip (fail_empty ctx hat (head_ne (by decide))) (Good.skip (kw_fail hat (head_ne (by decide)))
        (Good.cons (Good.kw hat rfl (fun _ => (h1 _).bind (h2.expect.bind ((h3 _).bind (h4.expect.ret _)))) rfl)))
    · obtain ⟨ss, j, tyj, hss, kj, rfl, rfl⟩ := stmt_block_flat _ _ _ _ _ _ _ hs
      obtain ⟨p, h1, _⟩ := ih.stmts r ss _ hss f (loopFuel ctx) _ a0 hf (loopFuel_gt ctx a0)
      obtain ⟨_, h2⟩ := Parses.expect_token h1.at_ kj
      exact Good.skip (fail_empty ctx hat (head_ne (by decide))) (Good.skip (kw_fail hat (head_ne (by decide)))
        (Good.skip (kw_fail hat (head_ne (by decide))) (Good.cons (Good.kw hat rfl (fun _ => h1.many.bind ((h2 _).ret _)) (by simp only [ofList_relRefs, relStmt, relInfo, mkInfo])))))
    · have hI := ident_ok hat.clearErr
      have skip4 : ∀ {a : Stmt} {rng : Range} {sp : Span} {rest : Toks} {ps : List (P Stmt)} {q : P Stmt},
          Good ctx s (altList (q :: ps) s) a rng sp rest →
          Good ctx s (altList (pmap (fun (p : Token × AstInfo) => Stmt.empty p.2) (info (tk ctx .Semic)) ::
            parseIf ctx (f + 1) none :: parseWhile ctx (f + 1) none :: parseBlock ctx (f + 1) none :: q :: ps) s) a rng sp rest :=
        fun h => Good.skip (fail_empty ctx hat (head_ne Kind.noConfusion)) (Good.skip (kw_fail hat (head_ne Kind.noConfusion))
          (Good.skip (kw_fail hat (head_ne Kind.noConfusion)) (Good.skip (kw_fail hat (head_ne Kind.noConfusion)) h)))
      by_cases hc : ∃ k r', r = ⟨k, .LParen⟩ :: r'
      · -- call statement
        obtain ⟨k, r', rfl⟩ := hc
        obtain ⟨as, irp, tyrp, j, tyj, hargs, krp, kj, rfl, rfl⟩ := stmt_call_flat _ _ _ _ _ _ _ _ _ hs
        obtain ⟨_, _, h1⟩ := Parses.token a0 (k := .LParen) rfl
        obtain ⟨p, hA⟩ := optList_conf ctx (parseArgument ctx) (fun (e : Expr) => e.info.range) (exprList_sepList (G ctx)) _ _
          (arg_elem ctx) (x := .Semic) (fun i' ty r0 e r1 he => let ⟨_, hx, _⟩ := Option.map_eq_some_iff.mp he
            Decidable.byContradiction fun hn => by rw [expr_none hn] at hx; cases hx)
          (by decide) hargs ⟨irp, tyrp, _, rfl, beq_iff_eq.mp krp⟩ h1.at_
        obtain ⟨_, h3⟩ := Parses.expect_token hA.at_ krp
        obtain ⟨_, h4⟩ := Parses.expect_token hA.at_.tail kj
        exact skip4 (Good.cons (Good.pmap Stmt.call (Good.seq hat (hI.bind (h1.ret _)) (Nat.le_of_succ_le_succ h1.le)
          (hA.bind ((h3 _).bind ((h4 _).ret _))) rfl)))
      · -- assignment
        obtain ⟨v, sv, ias, tyas, r1, e, se, j, tyj, hv, kas, he, kj, rfl, rfl⟩ :=
          stmt_assign_flat _ _ _ _ _ _ _ _ (fun k r' e => hc ⟨k, r', e⟩) hs
        have hlen := hat.length_le
        have hV := (conf_all ctx _).varAccess _ v sv _ hv (exprFuel ctx) _ hat.clearErr (by simp only [exprFuel]; omega)
        have h0 := Good.parses hV
        obtain ⟨_, _, h1⟩ := Parses.token h0.at_ kas
        have h2 := refExpr_parses ctx he h1.at_
        obtain ⟨_, h3⟩ := Parses.expect_token h2.at_ kj
        have hi : i ≤ sv.last := next_unique hV.2.1 hat.head.1 ▸ hV.2.2.1
        -- `CallStatement::parse` fails behind the name: no `(` follows
        obtain ⟨kf, sf, hf⟩ := tagK_fail ctx hI.at_ .LParen (fun k ty r' e' hk => hc ⟨k, r', by rw [e', kind_plain rfl hk]⟩)
        exact skip4 (Good.skip (call_fail ctx (bind_err _ _ _ ⟨kf, sf, by simp only [Parse.bind, hI.eq, show tk ctx .LParen _ = _ from hf]⟩) hat.ref)
          (Good.cons (Good.pmap Stmt.assign (Good.seq hat (h0.bind (h1.alt2_left.ret _)) (Nat.le_trans hi (Nat.le_of_succ_le_succ h1.le))
            (h2.expect.bind ((h3 _).ret _)) rfl))))
  stmts := by
    intro ts ss rest hs fm lf s hat hfm hlf
    obtain ⟨lf', rfl⟩ : ∃ f, lf = f + 1 := ⟨lf - 1, by omega⟩
    by_cases hr : ∃ i r, ts = ⟨i, .RCurly⟩ :: r
    · obtain ⟨i, r, rfl⟩ := hr
      cases hs
      obtain ⟨f, rfl⟩ : ∃ f, fm = f + 2 := ⟨fm - 2, by simp only [List.length_cons] at hfm; omega⟩
      exact ⟨s.pos, ⟨many0_nil (refParse_err _ s (parseStmt_fail_rcurly ctx hat.reref f) hat.ref), Nat.le_refl _, hat⟩,
        i, r, rfl⟩
    · obtain ⟨t, sp, r, ss', h1, h2, rfl⟩ := stmts_cons_flat _ _ _ _ _ (fun i r e => hr ⟨i, r, e⟩) hs
      have h := refStmt_parses ctx ih h1 hat hfm
      have hg := ih.stmt _ t sp r h1 fm _ hat.reref hfm
      have hp : s.pos ≤ sp.last := hg.pos_le
      -- the statement has consumed at least its first token
      have hlen : r.length + 1 ≤ ts.length := by
        cases ts with
        | nil => cases fs <;> cases h1
        | cons t0 r0 =>
          obtain ⟨hN, _, hr0, _⟩ := hat.head
          have e : sp.first = t0.idx := next_unique hg.2.1 hN
          have := At.cons_length ctx hat h.at_ (by have := hg.2.2.1; show t0.idx + 1 ≤ sp.last + 1; omega) hr0
          simp only [List.length_cons]
          omega
      obtain ⟨j, g1, g4⟩ := ih.stmts r ss' _ h2 fm lf' _ h.at_ (by omega) (by omega)
      exact ⟨j, ⟨many0_cons h.eq (by show sp.last + 1 ≠ s.pos; omega) g1.eq, Nat.le_trans h.le g1.le, g1.at_⟩, g4⟩

theorem sconf_all : ∀ fs, SConf ctx fs
  | 0 => ⟨fun _ _ _ _ hs => (nomatch hs), fun _ _ _ hs => (nomatch hs)⟩
  | fs + 1 => sconf_succ ctx (sconf_all fs)

end Spl.ParseConform
