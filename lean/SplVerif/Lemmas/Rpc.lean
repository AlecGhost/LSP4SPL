/-
  Helper lemmas for C18: what the generated dispatch tables must satisfy (`RpcTableOK`, a Boolean
  conjunction, re-checked by evaluation on every run) and its consequences for arbitrary method strings.
-/
import SplVerif.Spec.RpcSpec

namespace Spl.Rpc
open Spl

def isFeature : Option ReqAction → Bool
  | some (.feature _) => true
  | _ => false

/-- Everything the lifecycle theorem needs from the regenerated tables. -/
def RpcTableOK : Bool :=
  Gen.initializeMethod == "initialize" && Gen.initializedMethod == "initialized" &&
  Gen.exitMethod == "exit" &&
  Gen.errorCode Gen.preInitOther == -32002 &&
  Gen.errorCode Gen.handshakeInitialize == -32600 &&
  Gen.errorCode Gen.handshakeOther == -32002 &&
  Gen.errorCode Gen.shutdownRequest == -32600 &&
  lookup "initialize" Gen.mainRequests == some (.error .InvalidRequest) &&
  Gen.errorCode .InvalidRequest == -32600 &&
  lookup "shutdown" Gen.mainRequests == some .shutdown &&
  Gen.mainRequestDefault == .error .MethodNotFound &&
  Gen.errorCode .MethodNotFound == -32601 &&
  Gen.mainRequests.all (fun (k, _) => k == "initialize" || k == "shutdown" || RpcSpec.supported.contains k) &&
  RpcSpec.supported.all (fun k => isFeature (lookup k Gen.mainRequests)) &&
  lookup "exit" Gen.mainNotifications == some .exit &&
  Gen.mainNotifications.all (fun (k, a) => k == "exit" || a != .exit) &&
  !RpcSpec.supported.contains "initialize" && !RpcSpec.supported.contains "shutdown"

theorem lookup_some_mem {α} {m : String} {l : List (String × α)} {a : α}
    (h : lookup m l = some a) : (m, a) ∈ l := by
  induction l with
  | nil => cases h
  | cons kv r ih =>
    simp only [lookup] at h
    split at h
    · rename_i hk
      cases h
      cases eq_of_beq hk
      exact List.mem_cons_self
    · exact List.mem_cons_of_mem _ (ih h)

/-- `RpcTableOK` as propositions; the sweeps over the tables speak about arbitrary entries. -/
theorem table_facts (ok : RpcTableOK = true) :
    Gen.initializeMethod = "initialize" ∧ Gen.initializedMethod = "initialized" ∧
    Gen.exitMethod = "exit" ∧
    Gen.errorCode Gen.preInitOther = -32002 ∧
    Gen.errorCode Gen.handshakeInitialize = -32600 ∧
    Gen.errorCode Gen.handshakeOther = -32002 ∧
    Gen.errorCode Gen.shutdownRequest = -32600 ∧
    lookup "initialize" Gen.mainRequests = some (.error .InvalidRequest) ∧
    Gen.errorCode .InvalidRequest = -32600 ∧
    lookup "shutdown" Gen.mainRequests = some .shutdown ∧
    Gen.mainRequestDefault = .error .MethodNotFound ∧
    Gen.errorCode .MethodNotFound = -32601 ∧
    (∀ kv ∈ Gen.mainRequests, (kv.1 = "initialize" ∨ kv.1 = "shutdown") ∨ kv.1 ∈ RpcSpec.supported) ∧
    (∀ k ∈ RpcSpec.supported, isFeature (lookup k Gen.mainRequests) = true) ∧
    lookup "exit" Gen.mainNotifications = some .exit ∧
    (∀ kv ∈ Gen.mainNotifications, kv.1 = "exit" ∨ kv.2 ≠ .exit) ∧
    "initialize" ∉ RpcSpec.supported ∧ "shutdown" ∉ RpcSpec.supported := by
  simpa only [RpcTableOK, Bool.and_eq_true, beq_iff_eq, and_assoc, List.all_eq_true,
    Bool.or_eq_true, bne_iff_ne, List.contains_iff_mem, Bool.not_eq_true',
    ← Bool.not_eq_true] using ok

theorem main_request (ok : RpcTableOK = true) (id : Int) (m : String) :
    step .main (.req id m) =
      if m == "initialize" then (.main, [.err id (-32600)])
      else if m == "shutdown" then (.shutdown, [.ok id])
      else if RpcSpec.supported.contains m then (.main, [.ok id])
      else (.main, [.err id (-32601)]) := by
  obtain ⟨-, -, -, -, -, -, -, hI, e5, hS, hD, e6, hAll, hSup, -⟩ := table_facts ok
  rw [step]
  by_cases h1 : m = "initialize"
  · rw [h1, hI, if_pos (beq_self_eq_true _)]
    exact congrArg (fun c => (Phase.main, [Out.err id c])) e5
  rw [if_neg (mt eq_of_beq h1)]
  by_cases h2 : m = "shutdown"
  · rw [h2, hS, if_pos (beq_self_eq_true _)]
    rfl
  rw [if_neg (mt eq_of_beq h2)]
  by_cases h3 : m ∈ RpcSpec.supported
  · have hf := hSup m h3
    rw [if_pos (List.contains_iff_mem.mpr h3)]
    match lookup m Gen.mainRequests, hf with
    | some (.feature _), _ => rfl
  · rw [if_neg (mt List.contains_iff_mem.mp h3)]
    cases hl : lookup m Gen.mainRequests with
    | none =>
      rw [Option.getD_none, hD]
      exact congrArg (fun c => (Phase.main, [Out.err id c])) e6
    | some a => exact ((hAll (m, a) (lookup_some_mem hl)).elim (·.elim h1 h2) h3).elim

theorem main_note (ok : RpcTableOK = true) (m : String) :
    step .main (.note m) = if m == "exit" then (.exited 1, []) else (.main, []) := by
  obtain ⟨-, -, -, -, -, -, -, -, -, -, -, -, -, -, hX, hN, -⟩ := table_facts ok
  rw [step]
  by_cases h : m = "exit"
  · rw [h, hX]
    rfl
  · rw [if_neg (mt eq_of_beq h)]
    cases hl : lookup m Gen.mainNotifications with
    | none => rfl
    | some a =>
      cases a with
      | exit => exact absurd rfl ((hN (m, .exit) (lookup_some_mem hl)).resolve_left h)
      | _ => rfl

end Spl.Rpc
