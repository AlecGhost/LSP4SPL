/-
  For C05: declarations in front of a damaged one are parsed as if nothing followed (the declaration
  loop on a derivable prefix, stated for `parser::parse`).
-/
import SplVerif.Lemmas.ParseConformDecl
import SplVerif.Lemmas.FreshEnd

namespace Spl.ParseConform
open Spl Spl.Parse Spl.Grammar

theorem prependRes_eq_ok {α} {xs l : List α} {r : Res (List α)} {s : St} (h : prependRes xs r = .ok s l) :
    ∃ l', l = xs ++ l' := by
  cases r with
  | ok s' l' => cases h; exact ⟨l', rfl⟩
  | err k s' => cases h
  | panic e => cases h

theorem parse_decls (toks : List Token) (prog : Program) (hp : Parse.parse toks = .ok prog) :
    ∃ s', many0 (refParse (parseGlobalDecl ⟨toks.toArray, ⟨0, 0, toks.length⟩⟩) none)
      (loopFuel ⟨toks.toArray, ⟨0, 0, toks.length⟩⟩) { pos := 0 } = .ok s' prog.decls :=
  let ⟨s1, hr⟩ := parse_ok_iff.mp hp
  FreshEnd.program_loop s1 prog hr

/-- The statement of `C05.prefix_verbatim`: `prefix_conf` from the first token, with the fuel of `parser::parse`
    split into the `ds.length` rounds that return `ds` and the rest. -/
theorem parse_prefix (toks : List Token) (ds : List (Ref GlobalDecl)) (rest : Toks)
    (h : DeclsPrefix ⟨toks.toArray⟩ (tsFrom toks.toArray 0) ds rest) (prog : Program)
    (hp : Parse.parse toks = .ok prog) : ∃ more, prog.decls = ds.map relDecl ++ more := by
  let ctx : Ctx := { toks := toks.toArray, change := ⟨0, 0, toks.length⟩ }
  have hat : At ctx ({ pos := 0 } : St) (tsFrom ctx.toks 0) := ⟨Or.inl rfl, Nat.le_refl _, rfl⟩
  obtain ⟨e, _, _, hl, hm⟩ := prefix_conf ctx h { pos := 0 } (loopFuel ctx - ds.length) hat rfl
  have hfuel : (tsFrom toks.toArray 0).length < loopFuel ctx := loopFuel_gt ctx hat
  rw [show loopFuel ctx - ds.length + ds.length = loopFuel ctx by omega] at hm
  obtain ⟨s', hd⟩ := parse_decls toks prog hp
  exact prependRes_eq_ok (hm.symm.trans hd)

end Spl.ParseConform
