/-
  A derivation of the grammar specification carries no diagnostic: the change of range convention
  keeps the number of diagnostics of every node, and every `AstInfo` the specification builds has an
  empty error list.
-/
import SplVerif.Lemmas.ParseConformDecl

namespace Spl.ParseConform
open Spl Spl.Parse Spl.Grammar

theorem length_shiftErrs (es : List SplError) (d : Nat) : (shiftErrs es d).length = es.length :=
  List.length_map _

@[simp] theorem shiftErrs_eq_nil (es : List SplError) (d : Nat) : shiftErrs es d = [] ↔ es = [] :=
  List.map_eq_nil_iff

theorem nil_of_length {α} {l l' : List α} (h : l'.length = l.length) (hl : l = []) : l' = [] :=
  List.eq_nil_of_length_eq_zero (h.trans (congrArg List.length hl))

theorem optId_len (b : Nat) (n : Option Identifier) : (optIdErrors (n.map (relIdent b))).length = (optIdErrors n).length := by
  cases n <;> rfl

theorem optRef_len {α} (errs : α → List SplError) (f : Ref α → Ref α)
    (h : ∀ r, (refErrors errs (f r)).length = (refErrors errs r).length) (o : Option (Ref α)) :
    (optRefErrors errs (o.map f)).length = (optRefErrors errs o).length := by
  cases o with
  | none => rfl
  | some r => exact h r

theorem flatMap_map_len {α β} (f : α → List β) (g : α → α) (h : ∀ a, (f (g a)).length = (f a).length) (l : List α) :
    ((l.map g).flatMap f).length = (l.flatMap f).length := by
  induction l with
  | nil => rfl
  | cons a l ih => simp only [List.map_cons, List.flatMap_cons, List.length_append, h, ih]

mutual
  theorem relVar_len (b : Nat) : ∀ v : Var, (relVar b v).errors.length = v.errors.length
    | .named id => rfl
    | .access a idx i => by
      simp only [relVar, Var.errors, List.length_append, relInfo, relVar_len b a, relOptExpr_len b idx]
  theorem relExpr_len (b : Nat) : ∀ e : Expr, (relExpr b e).errors.length = e.errors.length
    | .binary op l r i => by
      simp only [relExpr, Expr.errors, List.length_append, relInfo, relExpr_len b l, relExpr_len b r]
    | .bracketed e i => by simp only [relExpr, Expr.errors, List.length_append, relInfo, relExpr_len b e]
    | .intLit l => rfl
    | .unary op e i => by simp only [relExpr, Expr.errors, List.length_append, relInfo, relExpr_len b e]
    | .var v => relVar_len b v
    | .error i => rfl
  theorem relOptExpr_len (b : Nat) : ∀ o : OptExpr, (relOptExpr b o).errors.length = o.errors.length
    | .none => rfl
    | .some e off => by simp only [relOptExpr, OptExpr.errors, length_shiftErrs, relExpr_len _ e]
end

theorem relOptExpr_errs (b : Nat) : ∀ o : OptExpr, o.errors = [] → (relOptExpr b o).errors = [] :=
  fun o => nil_of_length (relOptExpr_len b o)

mutual
  theorem relType_len (b : Nat) : ∀ t : TypeExpr, (relType b t).errors.length = t.errors.length
    | .named id => rfl
    | .array sz bt i => by simp only [relType, TypeExpr.errors, List.length_append, relInfo, relOptType_len b bt]
  theorem relOptType_len (b : Nat) : ∀ o : OptType, (relOptType b o).errors.length = o.errors.length
    | .none => rfl
    | .some t off => by simp only [relOptType, OptType.errors, length_shiftErrs, relType_len _ t]
end

theorem relOptType_errs (b : Nat) : ∀ o : OptType, o.errors = [] → (relOptType b o).errors = [] :=
  fun o => nil_of_length (relOptType_len b o)

theorem relRefExpr_len (b : Nat) (r : Ref Expr) :
    (refErrors Expr.errors (relRefExpr b r)).length = (refErrors Expr.errors r).length := by
  simp only [refErrors, relRefExpr, length_shiftErrs, relExpr_len]

theorem relRefType_len (b : Nat) (r : Ref TypeExpr) :
    (refErrors TypeExpr.errors (relRefType b r)).length = (refErrors TypeExpr.errors r).length := by
  simp only [refErrors, relRefType, length_shiftErrs, relType_len]

mutual
  theorem relStmt_len (b : Nat) : ∀ t : Stmt, (relStmt b t).errors.length = t.errors.length
    | .empty i => rfl
    | .error i => rfl
    | .assign a => by
      simp only [relStmt, Stmt.errors, Assignment.errors, List.length_append, relInfo, relVar_len,
        optRef_len _ _ (relRefExpr_len b)]
    | .call c => by
      simp only [relStmt, Stmt.errors, CallStmt.errors, List.length_append, relInfo, relIdent,
        flatMap_map_len _ _ (relRefExpr_len b)]
    | .ifS c t e i => by
      simp only [relStmt, Stmt.errors, List.length_append, relInfo, optRef_len _ _ (relRefExpr_len b),
        relOptStmt_len b t, relOptStmt_len b e]
    | .whileS c bd i => by
      simp only [relStmt, Stmt.errors, List.length_append, relInfo, optRef_len _ _ (relRefExpr_len b), relOptStmt_len b bd]
    | .block ss i => by simp only [relStmt, Stmt.errors, List.length_append, relInfo, relStmtList_len b ss]
  theorem relOptStmt_len (b : Nat) : ∀ o : OptStmt, (relOptStmt b o).errors.length = o.errors.length
    | .none => rfl
    | .some t off => by simp only [relOptStmt, OptStmt.errors, length_shiftErrs, relStmt_len _ t]
  theorem relStmtList_len (b : Nat) : ∀ l : StmtList, (relStmtList b l).errors.length = l.errors.length
    | .nil => rfl
    | .cons t off r => by
      simp only [relStmtList, StmtList.errors, List.length_append, length_shiftErrs, relStmt_len _ t, relStmtList_len b r]
end

theorem relOptStmt_errs (b : Nat) : ∀ o : OptStmt, o.errors = [] → (relOptStmt b o).errors = [] :=
  fun o => nil_of_length (relOptStmt_len b o)

theorem relStmtList_errs (b : Nat) : ∀ l : StmtList, l.errors = [] → (relStmtList b l).errors = [] :=
  fun l => nil_of_length (relStmtList_len b l)

theorem relRefStmt_len (b : Nat) (r : Ref Stmt) :
    (refErrors Stmt.errors (relRefStmt b r)).length = (refErrors Stmt.errors r).length := by
  simp only [refErrors, relRefStmt, length_shiftErrs, relStmt_len]

theorem relParam_len (b : Nat) (r : Ref ParamDecl) :
    (refErrors ParamDecl.errors (relParam b r)).length = (refErrors ParamDecl.errors r).length := by
  obtain ⟨v, o⟩ := r
  cases v <;> simp only [refErrors, relParam, ParamDecl.errors, length_shiftErrs, List.length_append, relInfo, optId_len,
    optRef_len _ _ (relRefType_len _)]

theorem relVarDecl_len (b : Nat) (r : Ref VarDecl) :
    (refErrors VarDecl.errors (relVarDecl b r)).length = (refErrors VarDecl.errors r).length := by
  obtain ⟨v, o⟩ := r
  cases v <;> simp only [refErrors, relVarDecl, VarDecl.errors, length_shiftErrs, List.length_append, relInfo, optId_len,
    optRef_len _ _ (relRefType_len _)]

theorem relDecl_len (r : Ref GlobalDecl) :
    (refErrors GlobalDecl.errors (relDecl r)).length = (refErrors GlobalDecl.errors r).length := by
  obtain ⟨v, o⟩ := r
  cases v <;> simp only [refErrors, relDecl, GlobalDecl.errors, TypeDecl.errors, ProcDecl.errors, length_shiftErrs,
    List.length_append, relInfo, optId_len, optRef_len _ _ (relRefType_len _), flatMap_map_len _ _ (relParam_len _),
    flatMap_map_len _ _ (relVarDecl_len _), flatMap_map_len _ _ (relRefStmt_len _)]

theorem relDecl_errs (r : Ref GlobalDecl) (h : refErrors GlobalDecl.errors r = []) :
    refErrors GlobalDecl.errors (relDecl r) = [] :=
  nil_of_length (relDecl_len r) h

theorem intLitTok_errs (g : GCtx) (ts rest : Toks) (l : IntLiteral) (i : Nat) (h : intLitTok g ts = some (l, i, rest)) :
    l.info.errors = [] := by
  unfold intLitTok at h
  split at h
  · cases h; rfl
  · cases h; rfl
  · split at h
    · cases h; rfl
    · cases h
  · cases h

structure CConf (g : GCtx) (fs : Nat) : Prop where
  expr : ∀ ts e sp r, expr g fs ts = some (e, sp, r) → e.errors = []
  add : ∀ ts e sp r, add g fs ts = some (e, sp, r) → e.errors = []
  addRest : ∀ ts l sl e sp r, addRest g fs l sl ts = some (e, sp, r) → l.errors = [] → e.errors = []
  mul : ∀ ts e sp r, mul g fs ts = some (e, sp, r) → e.errors = []
  mulRest : ∀ ts l sl e sp r, mulRest g fs l sl ts = some (e, sp, r) → l.errors = [] → e.errors = []
  factor : ∀ ts e sp r, factor g fs ts = some (e, sp, r) → e.errors = []
  varAccess : ∀ ts v sp r, varAccess g fs ts = some (v, sp, r) → v.errors = []
  accesses : ∀ ts v sv vf sp r, accesses g fs v sv ts = some (vf, sp, r) → v.errors = [] → vf.errors = []

theorem restStep_errs {g : GCtx} {fop : Kind → Option Operator} {operand : Toks → Option (Expr × Span × Toks)}
    {rest : Expr → Span → Toks → Option (Expr × Span × Toks)}
    (hoperand : ∀ ts e sp r, operand ts = some (e, sp, r) → e.errors = [])
    (hrest : ∀ ts l sl e sp r, rest l sl ts = some (e, sp, r) → l.errors = [] → e.errors = [])
    {l e : Expr} {sl sp : Span} {ts r : Toks} (h : restStep g fop operand rest l sl ts = some (e, sp, r)) (hl : l.errors = []) :
    e.errors = [] := by
  rcases restStep_cases h with ⟨_, e⟩ | ⟨_, _, _, _, _, _, _, _, _, hm, hr⟩
  · cases e; exact hl
  · exact hrest _ _ _ _ _ _ hr (by simp only [Expr.errors, mkInfo, hl, hoperand _ _ _ _ hm, List.append_nil])

theorem cconf_all (g : GCtx) : ∀ fs, CConf g fs
  | 0 => ⟨fun _ _ _ _ h => (nomatch h), fun _ _ _ _ h => (nomatch h), fun _ _ _ _ _ _ h => (nomatch h),
      fun _ _ _ _ h => (nomatch h), fun _ _ _ _ _ _ h => (nomatch h), fun _ _ _ _ h => (nomatch h),
      fun _ _ _ _ h => (nomatch h), fun _ _ _ _ _ _ h => (nomatch h)⟩
  | fs + 1 => by
    have ih := cconf_all g fs
    constructor
    · intro ts e sp r h
      rw [expr_succ] at h
      split at h
      · cases h
      · next hl => exact restStep_errs ih.add (fun _ _ _ _ _ _ h hl => by cases h; exact hl) h (ih.add _ _ _ _ hl)
    · intro ts e sp r h
      unfold Grammar.add at h
      split at h
      · cases h
      · next hl => exact ih.addRest _ _ _ _ _ _ h (ih.mul _ _ _ _ hl)
    · intro ts l sl e sp r h hl
      exact restStep_errs ih.mul ih.addRest (addRest_succ .. ▸ h) hl
    · intro ts e sp r h
      unfold Grammar.mul at h
      split at h
      · cases h
      · next hl => exact ih.mulRest _ _ _ _ _ _ h (ih.factor _ _ _ _ hl)
    · intro ts l sl e sp r h hl
      exact restStep_errs ih.factor ih.mulRest (mulRest_succ .. ▸ h) hl
    · intro ts e sp r h
      unfold Grammar.factor at h
      split at h
      · split at h
        · next h1 => cases h; simp only [Expr.errors, mkInfo, ih.factor _ _ _ _ h1, List.append_nil]
        · cases h
      · split at h
        · next h1 =>
          split at h
          · cases h; simp only [Expr.errors, mkInfo, ih.expr _ _ _ _ h1, List.append_nil]
          · cases h
        · cases h
      · split at h
        · next h1 => cases h; exact ih.varAccess _ _ _ _ h1
        · cases h
      · split at h
        · next h1 => cases h; exact intLitTok_errs _ _ _ _ _ h1
        · cases h
    · intro ts v sp r h
      unfold Grammar.varAccess at h
      split at h
      · exact ih.accesses _ _ _ _ _ _ h rfl
      · cases h
    · intro ts v sv vf sp r h hv
      unfold Grammar.accesses at h
      split at h
      · split at h
        · next h1 =>
          split at h
          · refine ih.accesses _ _ _ _ _ _ h ?_
            simp only [Var.errors, OptExpr.errors, mkInfo, hv, ih.expr _ _ _ _ h1, shiftErrs, List.map_nil, List.append_nil]
          · cases h
        · cases h
      · cases h; exact hv

theorem typeExpr_errs (g : GCtx) : ∀ (fs : Nat) (ts r : Toks) (t : TypeExpr) (sp : Span),
    typeExpr g fs ts = some (t, sp, r) → t.errors = []
  | 0, _, _, _, _, h => (nomatch h)
  | _ + 1, [], _, _, _, h => (nomatch h)
  | fs + 1, ⟨i, ty⟩ :: r0, r, t, sp, h => by
    by_cases hty : ty = .Array
    · subst hty
      obtain ⟨i1, ty1, r1, sz, isz, i3, ty3, i4, ty4, r4, b, sb, _, _, _, _, _, hb, rfl, _⟩ := typeExpr_array _ _ _ _ _ _ _ h
      simp only [TypeExpr.errors, OptType.errors, mkInfo, typeExpr_errs g fs _ _ _ _ hb, shiftErrs, List.map_nil, List.append_nil]
    · rw [typeExpr_other _ _ _ _ _ hty] at h
      split at h
      · cases h; rfl
      · cases h

theorem refAbs_errs {α} (errs : α → List SplError) (a : α) (h : errs a = []) : refErrors errs (refAbs a) = [] := by
  simp only [refErrors, refAbs, h, shiftErrs, List.map_nil]

theorem exprList_errs (g : GCtx) (fl : Nat) (ts r : Toks) (es : List (Ref Expr)) (h : exprList g fl ts = some (es, r)) :
    ∀ e ∈ es, refErrors Expr.errors e = [] := by
  refine (exprList_sepList g).forall _ (fun ts e r he => refAbs_errs _ _ ?_) fl ts es r h
  obtain ⟨⟨e', sp, r'⟩, he', hp⟩ := Option.map_eq_some_iff.mp he
  cases hp
  exact (cconf_all g _).expr _ _ _ _ he'

structure SClean (g : GCtx) (fs : Nat) : Prop where
  stmt : ∀ ts t sp r, Grammar.stmt g fs ts = some (t, sp, r) → t.errors = []
  stmts : ∀ ts ss r, Grammar.stmts g fs ts = some (ss, r) → ss.errors = []

theorem sclean_all (g : GCtx) : ∀ fs, SClean g fs
  | 0 => ⟨fun _ _ _ _ h => (nomatch h), fun _ _ _ h => (nomatch h)⟩
  | fs + 1 => by
    have ih := sclean_all g fs
    have hc : ∀ {f ts c sp r}, expr g f ts = some (c, sp, r) → optRefErrors Expr.errors (some (refAbs c)) = [] :=
      fun he => refAbs_errs _ _ ((cconf_all g _).expr _ _ _ _ he)
    have ho : ∀ {ts t sp r}, Grammar.stmt g fs ts = some (t, sp, r) → shiftErrs t.errors 0 = [] := fun ht => by
      rw [ih.stmt _ _ _ _ ht]; rfl
    refine ⟨fun ts t sp r h => ?_, fun ts ss r h => ?_⟩
    · match ts with
      | [] => cases h
      | ⟨i, ty⟩ :: r0 =>
        rcases stmt_head h with rfl | rfl | rfl | rfl | ⟨nm, rfl⟩
        · cases h; rfl
        · obtain ⟨ilp, tylp, r1, c, spc, irp, tyrp, r3, th, st, r4, _, _, hc', _, hth, helse⟩ := stmt_if_flat _ _ _ _ _ _ _ h
          rcases helse with ⟨ie, r5, e, se, _, he, rfl, _⟩ | ⟨_, _, rfl, _⟩
          · simp only [Stmt.errors, OptStmt.errors, mkInfo, hc hc', ho hth, ho he, List.append_nil]
          · simp only [Stmt.errors, OptStmt.errors, mkInfo, hc hc', ho hth, List.append_nil]
        · obtain ⟨ilp, tylp, r1, c, spc, irp, tyrp, r3, b, sb, _, _, hc', _, hb, rfl, _⟩ := stmt_while_flat _ _ _ _ _ _ _ h
          simp only [Stmt.errors, OptStmt.errors, mkInfo, hc hc', ho hb, List.append_nil]
        · obtain ⟨ss, j, tyj, hss, _, rfl, _⟩ := stmt_block_flat _ _ _ _ _ _ _ h
          simp only [Stmt.errors, mkInfo, ih.stmts _ _ _ hss, List.append_nil]
        · by_cases hlp : ∃ k r', r0 = ⟨k, .LParen⟩ :: r'
          · obtain ⟨k, r', rfl⟩ := hlp
            obtain ⟨as, irp, tyrp, j, tyj, hargs, _, _, rfl, _⟩ := stmt_call_flat _ _ _ _ _ _ _ _ _ h
            have hall : as.flatMap (refErrors Expr.errors) = [] := by
              rcases hargs with ⟨_, _, _, rfl, _⟩ | ⟨_, hl⟩
              · rfl
              · exact List.flatMap_eq_nil_iff.mpr (exprList_errs _ _ _ _ _ hl)
            simp only [Stmt.errors, CallStmt.errors, mkIdent, mkInfo, hall, List.append_nil]
          · obtain ⟨v, sv, ias, tyas, r1, e, se, j, tyj, hv, _, he, _, rfl, _⟩ :=
              stmt_assign_flat _ _ _ _ _ _ _ _ (fun k r' e => hlp ⟨k, r', e⟩) h
            simp only [Stmt.errors, Assignment.errors, mkInfo, (cconf_all g _).varAccess _ _ _ _ hv, hc he, List.append_nil]
    · by_cases hr : ∃ i r0, ts = ⟨i, .RCurly⟩ :: r0
      · obtain ⟨i, r0, rfl⟩ := hr
        cases h
        rfl
      · rw [stmts_other _ _ _ (fun i r0 e => hr ⟨i, r0, e⟩)] at h
        split at h
        · cases h
        · rename_i h1
          split at h
          · rename_i h2
            cases h
            simp only [StmtList.errors, ho h1, ih.stmts _ _ _ h2, List.append_nil]
          · cases h

theorem stmtList_toList_errs : ∀ ss : StmtList, ss.errors = [] → ss.toList.flatMap (refErrors Stmt.errors) = []
  | .nil, _ => rfl
  | .cons t o rest, h => by
    simp only [StmtList.errors, List.append_eq_nil_iff] at h
    simp only [StmtList.toList, List.flatMap_cons, refErrors, h.1, stmtList_toList_errs rest h.2, List.append_nil]

theorem params_errs (g : GCtx) (fp : Nat) (ts r : Toks) (ps : List (Ref ParamDecl)) (h : params g fp ts = some (ps, r)) :
    ∀ p ∈ ps, refErrors ParamDecl.errors p = [] := by
  refine (params_sepList g).forall _ (fun ts p r hp => refAbs_errs _ _ ?_) fp ts ps r h
  rcases param_flat _ _ _ _ hp with ⟨f, i, nm, icol, tycol, r1, t, st, _, _, ht, rfl⟩ | ⟨i, nm, icol, tycol, r1, t, st, _, _, ht, rfl⟩
  · simp only [ParamDecl.errors, optIdErrors, optRefErrors, mkIdent, mkInfo, refAbs_errs _ _ (typeExpr_errs _ _ _ _ _ _ ht), List.append_nil]
  · simp only [ParamDecl.errors, optIdErrors, optRefErrors, mkInfo, refAbs_errs _ _ (typeExpr_errs _ _ _ _ _ _ ht), List.append_nil]

theorem varDecls_errs (g : GCtx) : ∀ (fv : Nat) (ts r : Toks) (vs : List (Ref VarDecl)),
    varDecls g fv ts = some (vs, r) → vs.flatMap (refErrors VarDecl.errors) = []
  | 0, _, _, _, h => (nomatch h)
  | fv + 1, ts, r, vs, h => by
    by_cases hv : ∃ i r0, ts = ⟨i, .Var⟩ :: r0
    · obtain ⟨i, r0, rfl⟩ := hv
      obtain ⟨j, nm, icol, tycol, r2, t, st, k, tyk, r4, vs', _, _, ht, _, hrec, rfl⟩ := varDecls_var_flat _ _ _ _ _ _ h
      rw [List.flatMap_cons, varDecls_errs g fv r4 _ vs' hrec, List.append_nil]
      apply refAbs_errs
      simp only [VarDecl.errors, optIdErrors, optRefErrors, mkIdent, mkInfo, refAbs_errs _ _ (typeExpr_errs _ _ _ _ _ _ ht), List.append_nil]
    · rw [varDecls_other _ _ _ (fun i r0 e => hv ⟨i, r0, e⟩)] at h
      cases h
      rfl

theorem prefix_errs {g : GCtx} {ts rest : Toks} {ds : List (Ref GlobalDecl)} (h : DeclsPrefix g ts ds rest) :
    ∀ d ∈ ds, refErrors GlobalDecl.errors d = [] := by
  induction h with
  | nil => exact fun _ hd => nomatch hd
  | type i k r r4 rest td ds hsp _ ih =>
    refine List.forall_mem_cons.mpr ⟨refAbs_errs _ _ ?_, ih⟩
    obtain ⟨j, nm, ieq, tyeq, r2, t, st, tyk, _, _, ht, _, rfl⟩ := hsp.ex
    simp only [GlobalDecl.errors, TypeDecl.errors, optIdErrors, optRefErrors, mkIdent, mkInfo,
      refAbs_errs _ _ (typeExpr_errs _ _ _ _ _ _ ht), List.append_nil]
  | proc i j nm ilp tylp r2 ps irp tyrp ilc tylc r5 vs r6 ss k tyk r8 rest ds _ hps _ _ hvs hss _ _ ih =>
    refine List.forall_mem_cons.mpr ⟨refAbs_errs _ _ ?_, ih⟩
    have hp : ps.flatMap (refErrors ParamDecl.errors) = [] := by
      rcases hps with ⟨_, _, _, rfl, _⟩ | ⟨_, hl⟩
      · rfl
      · exact List.flatMap_eq_nil_iff.mpr (params_errs _ _ _ _ _ hl)
    simp only [GlobalDecl.errors, ProcDecl.errors, optIdErrors, mkIdent, mkInfo, hp, varDecls_errs _ _ _ _ _ hvs,
      stmtList_toList_errs ss ((sclean_all g _).stmts _ _ _ hss), List.append_nil]

theorem decls_errs (g : GCtx) : ∀ (fd : Nat) (ts : Toks) (ds : List (Ref GlobalDecl)) (last : Option Nat),
    decls g fd ts = some (ds, last) → ∀ d ∈ ds, refErrors GlobalDecl.errors d = [] :=
  fun fd ts ds last h => let ⟨_, hp⟩ := decls_is_prefix g fd ts ds last h; prefix_errs hp

/-- **A derivation of the specification carries no diagnostic.** -/
theorem parse_errors_nil (toks : List Token) (p : Program) (h : Grammar.parse toks = some p) : p.errors = [] := by
  obtain ⟨ds, last, hd, rfl⟩ := parse_some h
  rw [Program.errors, relativize, List.nil_append, List.flatMap_eq_nil_iff]
  intro x hx
  obtain ⟨x0, hx0, rfl⟩ := List.mem_map.mp hx
  exact relDecl_errs x0 (decls_errs _ _ _ _ _ hd x0 hx0)

end Spl.ParseConform
