/-
  C09 for statements: printed statements are sequences of complete lines; `indent` only puts white space in front
  of each line; every line tokenises into the types of the tokens it was printed from.
-/
import SplVerif.Lemmas.FmtExpr
import SplVerif.Lemmas.ParseConformStmt

namespace Spl.Fmt
open Spl.Feat Spl.Parse

theorem fmtStmt_empty (o : Options) (S : Slice) (i : AstInfo) :
    fmtStmt o S (.empty i) = (sub S i.range).map (fun sl => addAllComments (chars ";\n") sl.toList) := rfl

theorem fmtStmt_assign (o : Options) (S : Slice) (a : Assignment) :
    fmtStmt o S (.assign a) =
      match fmtAssignment a S, sub S a.info.range with
      | .ok s, .ok sl => .ok (addAllComments s sl.toList)
      | .error e, _ => .error e
      | _, .error e => .error e := rfl

theorem fmtStmt_call (o : Options) (S : Slice) (cs : CallStmt) :
    fmtStmt o S (.call cs) =
      match fmtCall cs S, sub S cs.info.range with
      | .ok s, .ok sl => .ok (addAllComments s sl.toList)
      | .error e, _ => .error e
      | _, .error e => .error e := rfl

theorem fmtStmt_block (o : Options) (S : Slice) (ss : StmtList) (i : AstInfo) :
    fmtStmt o S (.block ss i) =
      match sub S i.range with
      | .error e => .error e
      | .ok sl =>
        match ss with
        | .nil => .ok (addLeadingComments (chars "{}\n") sl.toList)
        | _ =>
          match fmtStmtList o S ss with
          | .error e => .error e
          | .ok body => .ok (addLeadingComments (chars "{\n" ++ indent body o ++ chars "}\n") sl.toList) := by
  cases ss <;> rfl

theorem fmtStmt_while (o : Options) (S : Slice) (cnd : Option (Ref Expr)) (b : OptStmt) (i : AstInfo) :
    fmtStmt o S (.whileS cnd b i) =
      match fmtOptRefExpr S cnd with
      | .error p => .error p
      | .ok cond =>
        match fmtBranch o S b '\n', sub S i.range with
        | .ok br, .ok sl => .ok (addLeadingComments (chars "while (" ++ cond ++ [')'] ++ br) sl.toList)
        | .error p, _ => .error p
        | _, .error p => .error p := rfl

theorem fmtStmtList_nil (o : Options) (S : Slice) : fmtStmtList o S .nil = .ok [] := rfl
theorem fmtStmtList_cons (o : Options) (S : Slice) (s : Stmt) (off : Nat) (rest : StmtList) :
    fmtStmtList o S (.cons s off rest) =
      match from' S off with
      | .error p => .error p
      | .ok sl =>
        match fmtStmt o sl s with
        | .error p => .error p
        | .ok a => (fmtStmtList o S rest).map (fun b => a ++ b) := rfl

/-- the `else` part of an `if` statement as the formatter computes it: `(true, text)` for `else if`, `(false, branch)`
    for any other statement -/
def elseOf (o : Options) (S : Slice) (e : OptStmt) : Option (Bool × R) :=
  match e with
  | .none => none
  | .some (.ifS c2 t2 e2 i2) off =>
    some (true, match from' S off with
      | .error p => .error p
      | .ok sl => fmtStmt o sl (.ifS c2 t2 e2 i2))
  | .some s off => some (false, fmtBranch o S (.some s off) '\n')

theorem fmtStmt_if (o : Options) (S : Slice) (cnd : Option (Ref Expr)) (t e : OptStmt) (i : AstInfo) :
    fmtStmt o S (.ifS cnd t e i) =
      ifAssemble (fmtOptRefExpr S cnd) (fmtBranch o S t '\n') (fmtBranch o S t ' ') (elseOf o S e) (sub S i.range) := by
  cases e with
  | none => rfl
  | some s off => cases s <;> rfl

theorem _root_.Spl.Grammar.relStmtList_cons (b : Nat) (s : Stmt) (off : Nat) (rest : StmtList) :
    Grammar.relStmtList b (.cons s off rest) =
      .cons (Grammar.relStmt s.info.range.lo s) (s.info.range.lo - b) (Grammar.relStmtList b rest) := by
  rw [Grammar.relStmtList]

theorem fmtBranch_some (o : Options) (S : Slice) (s : Stmt) (off : Nat) (ending : Char) :
    fmtBranch o S (.some s off) ending =
      match from' S off with
      | .error p => .error p
      | .ok sl =>
        match s with
        | .block .nil _ => .ok (chars " {}\n")
        | .block ss _ => (fmtStmtList o sl ss).map (fun body => chars " {\n" ++ indent body o ++ ['}', ending])
        | other => (fmtStmt o sl other).map (fun st => ['\n'] ++ indent st o) := by
  cases s with
  | block ss i => cases ss <;> rfl
  | _ => rfl
end Spl.Fmt

namespace Spl.FmtStmt
open Spl Spl.Grammar Spl.Fmt Spl.FmtLex Spl.Feat Spl.FmtExpr

/-- a printed line (without its terminator) and the token types it contributes -/
structure Line where
  text : List Char
  tys : List TokenType

def LineOK (l : Line) : Prop := NoNL l.text ∧ l.text.getLast? ≠ some '\r' ∧ PDel l.text l.tys

def render (ls : List Line) : List Char := ls.flatMap (fun l => l.text ++ ['\n'])
def typesOf (ls : List Line) : List TokenType := ls.flatMap (·.tys)

@[simp] theorem render_nil : render [] = [] := rfl
@[simp] theorem render_cons (l : Line) (ls : List Line) : render (l :: ls) = l.text ++ '\n' :: render ls := by
  simp [render]
@[simp] theorem render_append (a b : List Line) : render (a ++ b) = render a ++ render b := by simp [render]
@[simp] theorem typesOf_nil : typesOf [] = [] := rfl
@[simp] theorem typesOf_cons (l : Line) (ls : List Line) : typesOf (l :: ls) = l.tys ++ typesOf ls := by simp [typesOf]
@[simp] theorem typesOf_append (a b : List Line) : typesOf (a ++ b) = typesOf a ++ typesOf b := by simp [typesOf]

theorem render_pany : ∀ (ls : List Line), (∀ l ∈ ls, LineOK l) → PAny (render ls) (typesOf ls)
  | [], _ => p_nil _
  | l :: ls, h => by
    rw [render_cons, typesOf_cons]
    exact pdel_seq (h l (List.mem_cons_self ..)).2.2 ⟨'\n', render ls, rfl, rfl⟩
      (pany_seq p_newline (render_pany ls fun x hx => h x (List.mem_cons_of_mem _ hx)))

theorem lines_go_line : ∀ (t rest cur : List Char), NoNL t →
    Fmt.lines.go (t ++ '\n' :: rest) cur = (cur.reverse ++ t) :: Fmt.lines.go rest []
  | [], rest, cur, _ => by simp [Fmt.lines.go]
  | x :: t, rest, cur, h => by
    have hx : (x == '\n') = false := by simpa using h x (List.mem_cons_self ..)
    simp only [List.cons_append, Fmt.lines.go, hx, Bool.false_eq_true, if_false]
    rw [lines_go_line t rest (x :: cur) (fun y hy => h y (List.mem_cons_of_mem _ hy))]
    simp

theorem lines_go_render : ∀ (ls : List Line), (∀ l ∈ ls, NoNL l.text) →
    Fmt.lines.go (render ls) [] = ls.map (·.text)
  | [], _ => by simp [Fmt.lines.go]
  | l :: ls, h => by
    rw [render_cons, lines_go_line l.text (render ls) [] (h l (List.mem_cons_self ..)),
      lines_go_render ls (fun x hx => h x (List.mem_cons_of_mem _ hx))]
    rfl

theorem lines_render (ls : List Line) (h : ∀ l ∈ ls, NoNL l.text ∧ l.text.getLast? ≠ some '\r') :
    Fmt.lines (render ls) = ls.map (·.text) := by
  simp only [Fmt.lines]
  rw [lines_go_render ls (fun l hl => (h l hl).1), List.map_map]
  apply List.map_congr_left
  intro l hl
  simp only [Function.comp]
  split
  · rename_i e
    exact absurd e (h l hl).2
  · rfl

theorem getLast_append_ne {α} (a b : List α) (hb : b ≠ []) : (a ++ b).getLast? = b.getLast? := by
  rw [List.getLast?_append]
  cases hbl : b.getLast? with
  | none => exact absurd (List.getLast?_eq_none_iff.mp hbl) hb
  | some x => rfl

theorem getLast_opt (a b : List Char) (x : Char) (ha : a.getLast? ≠ some x) (hb : b.getLast? ≠ some x) :
    (a ++ b).getLast? ≠ some x := by
  cases b with
  | nil => simpa using ha
  | cons y t => rw [getLast_append_ne _ _ (by simp)]; exact hb

def indentLine (o : Options) (l : Line) : Line := ⟨o.indentation ++ l.text, l.tys⟩

theorem indent_render (o : Options) (ls : List Line) (h : ∀ l ∈ ls, NoNL l.text ∧ l.text.getLast? ≠ some '\r') :
    indent (render ls) o = render (ls.map (indentLine o)) := by
  rw [indent, lines_render ls h]
  simp only [render, List.flatMap_map, indentLine, List.append_assoc]

/-- the indentation unit is a blank or a tab -/
def OptOK (o : Options) : Prop := o.indentSymbol = ' ' ∨ o.indentSymbol = '\t'

theorem indentLine_ok (o : Options) (ho : OptOK o) (l : Line) (h : LineOK l) : LineOK (indentLine o l) := by
  have hsym : ∀ x ∈ o.indentation, x ≠ '\n' ∧ x ≠ '\r' ∧ LexSpec.ws x = true := by
    intro x hx
    rw [(List.mem_replicate.mp hx).2]
    rcases ho with e | e <;> rw [e] <;> decide
  exact ⟨noNL_append (fun x hx => (hsym x hx).1) h.1,
    getLast_opt _ _ _ (fun e => (hsym _ (List.mem_of_getLast? e)).2.1 rfl) h.2.1,
    pany_seq (pany_wsrun _ fun x hx => (hsym x hx).2.2) h.2.2⟩

variable (c : Ctx)

theorem sub_ok {S : Slice} (hS : SOK c S) (a b : Nat) (ha : S.lo ≤ a) (hab : a ≤ b) (hb : b ≤ c.g.all.size) :
    ∃ S', sub S ⟨a - S.lo, b - S.lo⟩ = .ok S' ∧ ∀ t ∈ S'.toList, t.kind ≠ Kind.Comment := by
  obtain ⟨S', e, hl⟩ := sub_abs c hS ha hab hb
  refine ⟨S', e, fun t ht => ?_⟩
  rw [hl, Array.mem_toList_iff, Array.mem_extract_iff_getElem] at ht
  obtain ⟨k, hk, rfl⟩ := ht
  exact c.nc (a + k) _ (Array.getElem?_eq_getElem _)

theorem addAll_nc (text : List Char) (toks : List Token) (h : ∀ t ∈ toks, t.kind ≠ Kind.Comment) :
    addAllComments text toks = text := by
  have : toks.filterMap commentStr = [] :=
    List.filterMap_eq_nil_iff.mpr fun t ht => if_neg (by simpa using h t ht)
  rw [addAllComments, this]
  rfl

theorem addLead_nc (text : List Char) (toks : List Token) (h : ∀ t ∈ toks, t.kind ≠ Kind.Comment) :
    addLeadingComments text toks = text := by
  have : toks.takeWhile (fun t => t.kind == .Comment) = [] := by
    cases toks with
    | nil => rfl
    | cons t r => exact List.takeWhile_cons_of_neg (by simpa using h t (List.mem_cons_self ..))
  rw [addLeadingComments, this]
  rfl

theorem sub_info_nc {S : Slice} (hS : SOK c S) {i j : Nat} (hlo : S.lo ≤ i) (hij : i ≤ j) (hj : j < c.g.all.size) :
    ∃ S', sub S (relInfo S.lo (mkInfo c.g i j)).range = .ok S' ∧
      (∀ text, addAllComments text S'.toList = text) ∧ ∀ text, addLeadingComments text S'.toList = text := by
  obtain ⟨S', es, hnc⟩ := sub_ok c hS i (j + 1) hlo (Nat.le_succ_of_le hij) hj
  exact ⟨S', by simpa only [relInfo, mkInfo_nc] using es, fun t => addAll_nc t _ hnc, fun t => addLead_nc t _ hnc⟩

/-- `Lines ls a b`: `ls` are complete lines for the tokens `a … b-1` -/
def Lines (ls : List Line) (a b : Nat) : Prop :=
  a ≤ b ∧ b ≤ c.g.all.size ∧ (∀ l ∈ ls, LineOK l) ∧ typesOf ls = tysOf c a b

variable {c}

theorem Lines.nil {a : Nat} (h : a ≤ c.g.all.size) : Lines c [] a a :=
  ⟨Nat.le_refl a, h, nofun, (tysOf_empty c a).symm⟩

theorem Lines.append {l1 l2 : List Line} {a b d : Nat} (h1 : Lines c l1 a b) (h2 : Lines c l2 b d) :
    Lines c (l1 ++ l2) a d := by
  refine ⟨Nat.le_trans h1.1 h2.1, h2.2.1, List.forall_mem_append.2 ⟨h1.2.2.1, h2.2.2.1⟩, ?_⟩
  rw [typesOf_append, h1.2.2.2, h2.2.2.2, tysOf_split c a b d h1.1 h2.1]

theorem lineOK_of {s : List Char} {tys : List TokenType} (h : Inline Delim s tys) (hl : s.getLast? ≠ some '\r') :
    LineOK ⟨s, tys⟩ := ⟨h.2, hl, h.1⟩

theorem getLast_concat_ne (t : List Char) {x : Char} (hx : x ≠ '\r') : (t ++ [x]).getLast? ≠ some '\r' := by
  rw [List.getLast?_concat]
  exact fun e => hx (Option.some.inj e)

theorem Lines.single (t : List Char) {x : Char} {a b : Nat} (h : Prints c Delim (t ++ [x]) a b) (hx : x ≠ '\r') :
    Lines c [⟨t ++ [x], tysOf c a b⟩] a b :=
  ⟨h.1, h.2.1, fun l hm => List.mem_singleton.mp hm ▸ lineOK_of h.2.2 (getLast_concat_ne t hx), by simp⟩

theorem Lines.prints_nil {C : List Char → Prop} {a b : Nat} (h : Lines c [] a b) : Prints c C [] a b :=
  ⟨h.1, h.2.1, h.2.2.2 ▸ ⟨p_nil C, nofun⟩⟩

theorem Lines.indent {o : Options} (ho : OptOK o) {ls : List Line} {a b : Nat} (h : Lines c ls a b) :
    Lines c (ls.map (indentLine o)) a b := by
  refine ⟨h.1, h.2.1, fun l hl => ?_, ?_⟩
  · obtain ⟨l0, hl0, rfl⟩ := List.mem_map.mp hl
    exact indentLine_ok o ho l0 (h.2.2.1 l0 hl0)
  · rw [← h.2.2.2]
    simp [typesOf, List.flatMap_map, indentLine]

theorem Lines.indent_eq {o : Options} {ls : List Line} {a b : Nat} (h : Lines c ls a b) :
    Fmt.indent (render ls) o = render (ls.map (indentLine o)) :=
  indent_render o ls fun l hl => ⟨(h.2.2.1 l hl).1, (h.2.2.1 l hl).2.1⟩

variable (c)

theorem refExpr_fmt {e : Expr} {se : Span} (he : EGood c e se) {S : Slice} (hS : SOK c S) (hlo : S.lo ≤ se.first) :
    ∃ s, fmtRefExpr S (relRefExpr S.lo (refAbs e)) = .ok s ∧ Prints c Delim s se.first (se.last + 1) ∧ s ≠ [] := by
  obtain ⟨S', ef, hlo', s, e2, p2, ne2⟩ := Good.ref he hS hlo
  rw [hlo'] at e2
  exact ⟨s, by simp only [fmtRefExpr, relRefExpr, refAbs, ef, e2], p2, ne2⟩

/-- a non-empty argument list, printed with `, ` between the arguments, for the tokens `a … b-1` -/
def AGood (es : List (Ref Expr)) (a b : Nat) : Prop :=
  a ≤ b ∧ ∀ S : Slice, SOK c S → S.lo ≤ a →
    ∃ strs, (es.map (relRefExpr S.lo)).mapM (fmtRefExpr S) = .ok strs ∧ strs ≠ [] ∧
      Prints c Delim (joinSep (chars ", ") strs) a b

theorem p_comma_sp : PAny [',', ' '] [.Comma] := pany_seq p_comma p_space

theorem exprList_good (fuel : Nat) : ∀ (ts : Toks) (es : List (Ref Expr)) (r : Toks) (st : Nat),
    exprList c.g fuel ts = some (es, r) → Al c st ts → ∃ b, AGood c es st b ∧ Al c b r := by
  induction fuel with
  | zero => exact fun _ _ _ _ hs => nomatch hs
  | succ fuel ih =>
    intro ts es r st hs hal
    rw [exprList.eq_def] at hs
    dsimp only at hs
    split at hs
    · cases hs
    · rename_i e se r0 he
      obtain ⟨ge, rfl, ae⟩ := expression_format_lexes c he hal
      have hse : se.first ≤ se.last + 1 + 1 := Nat.le_trans ge.1 (Nat.le_add_right _ 2)
      split at hs
      · rename_i ci r1
        split at hs
        · rename_i es2 r2 hr
          cases hs
          obtain ⟨b, ga, aa⟩ := ih r1 es2 _ _ hr ae.2.2
          refine ⟨b, ⟨Nat.le_trans hse ga.1, fun S hS hlo => ?_⟩, aa⟩
          obtain ⟨s1, e1, p1, _⟩ := refExpr_fmt c ge hS hlo
          obtain ⟨strs, e2, ne2, p2⟩ := ga.2 S hS (Nat.le_trans hlo hse)
          refine ⟨s1 :: strs, mapM_cons_ok e1 e2, List.cons_ne_nil _ _, ?_⟩
          cases strs with
          | nil => exact absurd rfl ne2
          | cons s2 rest =>
            rw [show joinSep (chars ", ") (s1 :: s2 :: rest) = s1 ++ (chars ", " ++ joinSep (chars ", ") (s2 :: rest))
              from List.append_assoc _ _ _]
            exact p1.del_cons ((Prints.sym ae.2.1 p_comma_sp rfl).any_seq p2) rfl
        · cases hs
      · cases hs
        refine ⟨se.last + 1, ⟨Nat.le_succ_of_le ge.1, fun S hS hlo => ?_⟩, ae⟩
        obtain ⟨s1, e1, p1, _⟩ := refExpr_fmt c ge hS hlo
        exact ⟨[s1], mapM_cons_ok e1 rfl, List.cons_ne_nil _ _, p1⟩

variable (o : Options)

/-- a statement list printed from any enclosing slice: complete lines for the tokens `a … b-1` -/
def LGood (ss : StmtList) (a b : Nat) : Prop :=
  a ≤ b ∧ b ≤ c.g.all.size ∧ ∀ S : Slice, SOK c S → S.lo ≤ a →
    ∃ ls, fmtStmtList o S (relStmtList S.lo ss) = .ok (render ls) ∧ (∀ l ∈ ls, LineOK l) ∧
      typesOf ls = tysOf c a b ∧ (ls = [] ↔ ss = .nil)

def SGood (s : Stmt) (sp : Span) : Prop :=
  sp.first ≤ sp.last ∧ sp.last < c.g.all.size ∧ s.info.range.lo = sp.first ∧
  (∀ S : Slice, SOK c S → S.lo ≤ sp.first →
    ∃ ls, fmtStmt o S (relStmt S.lo s) = .ok (render ls) ∧ (∀ l ∈ ls, LineOK l) ∧ ls ≠ [] ∧
      typesOf ls = tysOf c sp.first (sp.last + 1)) ∧
  (∀ ss i, s = .block ss i → LGood c o ss (sp.first + 1) sp.last ∧ sp.first < sp.last ∧
    (∃ tk, c.g.all[sp.first]? = some tk ∧ tk.ty = .LCurly) ∧ (∃ tk, c.g.all[sp.last]? = some tk ∧ tk.ty = .RCurly))

variable {c o}

theorem LGood.lines {ss : StmtList} {a b : Nat} (h : LGood c o ss a b) {S : Slice} (hS : SOK c S) (hlo : S.lo ≤ a) :
    ∃ ls, fmtStmtList o S (relStmtList S.lo ss) = .ok (render ls) ∧ Lines c ls a b ∧ (ls = [] ↔ ss = .nil) := by
  obtain ⟨ls, e, hok, hty, hnil⟩ := h.2.2 S hS hlo
  exact ⟨ls, e, ⟨h.1, h.2.1, hok, hty⟩, hnil⟩

theorem SGood.lines {s : Stmt} {sp : Span} (h : SGood c o s sp) {S : Slice} (hS : SOK c S) (hlo : S.lo ≤ sp.first) :
    ∃ ls, fmtStmt o S (relStmt S.lo s) = .ok (render ls) ∧ Lines c ls sp.first (sp.last + 1) ∧ ls ≠ [] := by
  obtain ⟨ls, e, hok, hne, hty⟩ := h.2.2.2.1 S hS hlo
  exact ⟨ls, e, ⟨Nat.le_succ_of_le h.1, h.2.1, hok, hty⟩, hne⟩

theorem SGood.ref {s : Stmt} {sp : Span} (h : SGood c o s sp) {S : Slice} (hS : SOK c S) (hlo : S.lo ≤ sp.first) :
    ∃ S', from' S (s.info.range.lo - S.lo) = .ok S' ∧ SOK c S' ∧ S'.lo = s.info.range.lo ∧
      ∃ ls, fmtStmt o S' (relStmt s.info.range.lo s) = .ok (render ls) ∧ Lines c ls sp.first (sp.last + 1) ∧ ls ≠ [] := by
  have h3 := h.2.2.1
  obtain ⟨S', e, hS', hlo'⟩ := from_ref hS (a := s.info.range.lo) (h3 ▸ hlo)
    (h3 ▸ Nat.le_of_lt (Nat.lt_of_le_of_lt h.1 h.2.1))
  obtain ⟨ls, e2, hl, hne⟩ := h.lines hS' (Nat.le_of_eq (hlo'.trans h3))
  exact ⟨S', e, hS', hlo', ls, hlo' ▸ e2, hl, hne⟩

theorem LGood.intro {ss : StmtList} {a b : Nat} (hab : a ≤ b) (hb : b ≤ c.g.all.size)
    (h : ∀ S, SOK c S → S.lo ≤ a →
      ∃ ls, fmtStmtList o S (relStmtList S.lo ss) = .ok (render ls) ∧ Lines c ls a b ∧ (ls = [] ↔ ss = .nil)) :
    LGood c o ss a b :=
  ⟨hab, hb, fun S hS hlo => let ⟨ls, e, hl, hnil⟩ := h S hS hlo; ⟨ls, e, hl.2.2.1, hl.2.2.2, hnil⟩⟩

theorem SGood.intro {s : Stmt} {a b : Nat}
    (hb : ∀ ss i, s = .block ss i → LGood c o ss (a + 1) b ∧ a < b ∧ TokAt c a .LCurly ∧ TokAt c b .RCurly)
    (h1 : a ≤ b) (h2 : b < c.g.all.size) (h3 : s.info.range.lo = a)
    (h : ∀ S, SOK c S → S.lo ≤ a → ∃ ls, fmtStmt o S (relStmt S.lo s) = .ok (render ls) ∧ Lines c ls a (b + 1) ∧ ls ≠ []) :
    SGood c o s ⟨a, b⟩ :=
  ⟨h1, h2, h3, fun S hS hlo => let ⟨ls, e, hl, hne⟩ := h S hS hlo; ⟨ls, e, hl.2.2.1, hne, hl.2.2.2⟩, hb⟩

variable (c o)

theorem empty_good {i : Nat} (ht : TokAt c i .Semic) : SGood c o (.empty (mkInfo c.g i i)) ⟨i, i⟩ := by
  refine SGood.intro (fun _ _ h => nomatch h) (Nat.le_refl i) ht.lt (mkInfo_lo c _ _) fun S hS hlo => ?_
  obtain ⟨S', es, hall, _⟩ := sub_info_nc c hS hlo (Nat.le_refl i) ht.lt
  refine ⟨_, ?_, Lines.single [] (Prints.sym ht p_semic rfl).any_del (by decide), by simp⟩
  simp only [relStmt, fmtStmt_empty, es, Except.map, hall]
  simp [chars]

theorem assign_good {v : Var} {sv : Span} {e : Expr} {se : Span}
    (hv : VGood c v sv) (ht : TokAt c (sv.last + 1) .Assign) (he : EGood c e se) (hse : se.first = sv.last + 2)
    (ht2 : TokAt c (se.last + 1) .Semic) :
    SGood c o (.assign { target := v, expr := some (refAbs e), info := mkInfo c.g sv.first (se.last + 1) })
      ⟨sv.first, se.last + 1⟩ := by
  obtain ⟨b1, b2⟩ : sv.first ≤ se.first ∧ sv.first ≤ se.last + 1 := by
    have := hv.1
    have := he.1
    omega
  refine SGood.intro (fun _ _ h => nomatch h) b2 ht2.lt (mkInfo_lo c _ _) fun S hS hlo => ?_
  obtain ⟨vs, e1, p1, _⟩ := Good.prints hv hS hlo
  obtain ⟨xs, e2, p2, _⟩ := refExpr_fmt c he hS (Nat.le_trans hlo b1)
  rw [hse] at p2
  obtain ⟨S', es, hall, _⟩ := sub_info_nc c hS hlo b2 ht2.lt
  refine ⟨_, ?_, Lines.single _ ((p1.del_cons ((Prints.sym ht (pany_seq p_space p_assign) rfl).any_seq p2) rfl).del_cons
    (Prints.sym ht2 p_semic rfl) rfl).any_del (by decide), by simp⟩
  simp only [relStmt, fmtStmt_assign, fmtAssignment, fmtOptRefExpr, Option.map, e2, e1, Except.map, es, hall]
  simp [chars]

theorem call_good {i rp : Nat} {s : List Char} {es : List (Ref Expr)}
    (ht : TokAt c i (.Ident s)) (ht1 : TokAt c (i + 1) .LParen)
    (hargs : (es = [] ∧ rp = i + 2) ∨ AGood c es (i + 2) rp)
    (ht2 : TokAt c rp .RParen) (ht3 : TokAt c (rp + 1) .Semic) :
    SGood c o (.call { name := mkIdent c.g i s, args := es, info := mkInfo c.g i (rp + 1) }) ⟨i, rp + 1⟩ := by
  have hA : ∀ S, SOK c S → S.lo ≤ i → ∃ as, (es.map (relRefExpr S.lo)).mapM (fmtRefExpr S) = .ok as ∧
      Prints c Delim (joinSep (chars ", ") as) (i + 2) rp := by
    intro S hS hlo
    rcases hargs with ⟨rfl, rfl⟩ | h
    · exact ⟨[], rfl, Prints.nil (Nat.le_of_lt ht2.lt)⟩
    · obtain ⟨strs, e, _, p⟩ := h.2 S hS (Nat.le_trans hlo (Nat.le_add_right i 2))
      exact ⟨strs, e, p⟩
  have hrp : i ≤ rp + 1 := by
    rcases hargs with ⟨_, h⟩ | h
    · omega
    · exact Nat.le_trans (Nat.le_add_right i 2) (Nat.le_succ_of_le h.1)
  refine SGood.intro (fun _ _ h => nomatch h) hrp ht3.lt (mkInfo_lo c _ _) fun S hS hlo => ?_
  obtain ⟨as, ea, pa⟩ := hA S hS hlo
  obtain ⟨S', es', hall, _⟩ := sub_info_nc c hS hlo hrp ht3.lt
  refine ⟨_, ?_, Lines.single _ (((ident_prints c ht).1.del_cons ((Prints.sym ht1 p_lparen rfl).any_seq
    (pa.del_cons (Prints.sym ht2 p_rparen rfl) rfl)) rfl).any_seq (Prints.sym ht3 p_semic rfl)).any_del
    (by decide), by simp⟩
  simp only [relStmt, relIdent, mkIdent, fmtStmt_call, fmtCall, ea, es', hall]
  simp [chars]

/-- a keyword is printed as the specification's table spells its type; looking a type up compares no strings, so
    the evaluation is cheap -/
theorem keyword_at {w : List Char} {ty : TokenType} (h : LexSpec.keywords.find? (·.2 == ty) = some (w, ty)) :
    Inline Delim w [ty] := keyword_inline (List.mem_of_find?_eq_some h)

theorem kw_if : Inline Delim (chars "if") [.If] := keyword_at rfl
theorem kw_else : Inline Delim (chars "else") [.Else] := keyword_at rfl
theorem kw_while : Inline Delim (chars "while") [.While] := keyword_at rfl

theorem p_sp_lcurly : PAny [' ', '{'] [.LCurly] := pany_seq p_space p_lcurly

theorem head_prints {kw : List Char} {kty : TokenType} (hk : Inline Delim kw [kty]) {i : Nat} {e : Expr} {se : Span}
    (ht : TokAt c i kty) (ht1 : TokAt c (i + 1) .LParen) (he : EGood c e se) (hse : se.first = i + 2)
    (ht2 : TokAt c (se.last + 1) .RParen) {S : Slice} (hS : SOK c S) (hlo : S.lo ≤ i) :
    ∃ cond, fmtOptRefExpr S (some (relRefExpr S.lo (refAbs e))) = .ok cond ∧
      Prints c (fun _ => True) (kw ++ ([' ', '('] ++ cond) ++ [')']) i (se.last + 1 + 1) := by
  obtain ⟨cond, e1, p1, _⟩ := refExpr_fmt c he hS (hse ▸ Nat.le_trans hlo (Nat.le_add_right i 2))
  rw [hse] at p1
  exact ⟨cond, e1, ((Prints.tok ht hk).del_cons ((Prints.sym ht1 (pany_seq p_space p_lparen) rfl).any_seq p1) rfl).del_cons
    (Prints.sym ht2 p_rparen rfl) rfl⟩

theorem branch_shape (ho : OptOK o) (t : Stmt) (st : Span) (ht : SGood c o t st) (E : Char) (hE : E = '\n' ∨ E = ' ')
    (S : Slice) (hS : SOK c S) (hlo : S.lo ≤ st.first) :
    ∃ hx hxt mid pfx pfxt,
      fmtBranch o S (relOptStmt S.lo (.some t 0)) E = .ok (hx ++ '\n' :: (render mid ++ pfx)) ∧
      PAny hx hxt ∧ NoNL hx ∧ (hx = [] ∨ StartsDelim hx) ∧ hx.getLast? ≠ some '\r' ∧
      (∀ l ∈ mid, LineOK l) ∧ PAny pfx pfxt ∧ NoNL pfx ∧ (E = '\n' → pfx = [] ∧ pfxt = []) ∧
      hxt ++ typesOf mid ++ pfxt = tysOf c st.first (st.last + 1) := by
  obtain ⟨S', ef, hS', hlo', ls, e, hl, _⟩ := ht.ref hS hlo
  have h3 := ht.2.2.1
  by_cases hb : ∃ ss i, t = .block ss i
  · obtain ⟨ss, i, rfl⟩ := hb
    obtain ⟨lg, hlt, h1, h2⟩ := ht.2.2.2.2 ss i rfl
    simp only [Stmt.info] at ef hlo' h3
    obtain ⟨ls', e', hl', hnil⟩ := lg.lines hS' (Nat.le_succ_of_le (Nat.le_of_eq (hlo'.trans h3)))
    have hty : tysOf c st.first (st.last + 1) = .LCurly :: (tysOf c (st.first + 1) st.last ++ [TokenType.RCurly]) := by
      rw [tysOf_cons c h1 (Nat.lt_succ_of_lt hlt), tysOf_split c (st.first + 1) st.last (st.last + 1) hlt (Nat.le_succ _),
        tysOf_cons c h2 (Nat.lt_succ_self _), tysOf_empty]
    rw [hlo'] at e'
    cases ss with
    | nil =>
      refine ⟨[' ', '{', '}'], [.LCurly, .RCurly], [], [], [], ?_, pany_seq p_sp_lcurly p_rcurly, noNL_of_b rfl,
        Or.inr (startsDelim_space _), by decide, nofun, p_nil _,
        nofun, fun _ => ⟨rfl, rfl⟩, ?_⟩
      · simp only [relOptStmt, Stmt.info, fmtBranch_some, ef, relStmt, relStmtList]
        simp [chars]
      · rw [hty, ← hl'.2.2.2, hnil.mpr rfl]
        rfl
    | cons s0 off0 rest0 =>
      have hfmt : fmtBranch o S (relOptStmt S.lo (.some (.block (.cons s0 off0 rest0) i) 0)) E =
          .ok (chars " {\n" ++ render (ls'.map (indentLine o)) ++ ['}', E]) := by
        simp only [relOptStmt, Stmt.info, fmtBranch_some, ef, relStmt] at e' ⊢
        rw [relStmtList_cons] at e' ⊢
        dsimp only
        rw [e', ← hl'.indent_eq]
        rfl
      have hmid := (hl'.indent ho (o := o)).2.2
      rcases hE with rfl | rfl
      · refine ⟨[' ', '{'], [.LCurly], ls'.map (indentLine o) ++ [⟨['}'], [.RCurly]⟩], [], [], ?_, p_sp_lcurly,
          noNL_of_b rfl, Or.inr (startsDelim_space _), by decide, List.forall_mem_append.2 ⟨hmid.1,
          List.forall_mem_singleton.2 (lineOK_of (Inline.lit (pany_pdel p_rcurly) rfl) (by decide))⟩, p_nil _, nofun,
          fun _ => ⟨rfl, rfl⟩, ?_⟩
        · rw [hfmt]; simp [chars]
        · rw [hty, typesOf_append, hmid.2]; simp
      · refine ⟨[' ', '{'], [.LCurly], ls'.map (indentLine o), ['}', ' '], [.RCurly], ?_, p_sp_lcurly, noNL_of_b rfl,
          Or.inr (startsDelim_space _), by decide, hmid.1, pany_seq p_rcurly p_space, noNL_of_b rfl,
          fun h => absurd h (by decide), ?_⟩
        · rw [hfmt]; simp [chars]
        · rw [hty, hmid.2]; rfl
  · have other : (match relStmt t.info.range.lo t with
        | .block .nil _ => (Except.ok (chars " {}\n") : R)
        | .block ss _ => (fmtStmtList o S' ss).map (fun body => chars " {\n" ++ indent body o ++ ['}', E])
        | other => (fmtStmt o S' other).map (fun st => ['\n'] ++ indent st o)) =
        (fmtStmt o S' (relStmt t.info.range.lo t)).map (fun st => ['\n'] ++ indent st o) := by
      cases t with
      | block ss i => exact absurd ⟨ss, i, rfl⟩ hb
      | _ => rfl
    have hmid := (hl.indent ho (o := o)).2.2
    refine ⟨[], [], ls.map (indentLine o), [], [], ?_, p_nil _, nofun, Or.inl rfl,
      by simp, hmid.1, p_nil _, nofun, fun _ => ⟨rfl, rfl⟩, by simp [hmid.2]⟩
    simp only [relOptStmt, fmtBranch_some, ef]
    rw [other, e, ← hl.indent_eq]
    simp [Except.map]

theorem pdel_opt {s1 t1 s2 t2} (h1 : PDel s1 t1) (hs : s2 = [] ∨ StartsDelim s2) (h2 : PAny s2 t2) :
    PDel (s1 ++ s2) (t1 ++ t2) := by
  rcases hs with rfl | hs
  · intro rest rt hd hl
    have := h1 rest (t2 ++ rt) hd (by simpa using h2 rest rt trivial hl)
    simpa using this
  · exact pdel_seq h1 hs (pany_pdel h2)

theorem block_good {i j : Nat} {ss : StmtList} (hij : i < j) (ht : TokAt c i .LCurly) (ht2 : TokAt c j .RCurly)
    (ho : OptOK o) (hl : LGood c o ss (i + 1) j) : SGood c o (.block ss (mkInfo c.g i j)) ⟨i, j⟩ := by
  refine SGood.intro (fun ss' i' h => ?_) (Nat.le_of_lt hij) ht2.lt (mkInfo_lo c _ _) fun S hS hlo => ?_
  · cases h
    exact ⟨hl, hij, ht, ht2⟩
  · obtain ⟨S', es, _, hlead⟩ := sub_info_nc c hS hlo (Nat.le_of_lt hij) ht2.lt
    obtain ⟨ls, e, hls, hnil⟩ := hl.lines hS (by omega)
    have op := Prints.sym ht p_lcurly rfl
    have cl := Prints.sym ht2 p_rcurly rfl
    cases ss with
    | nil =>
      rw [hnil.mpr rfl] at hls
      refine ⟨_, ?_, Lines.single _ ((op.any_seq hls.prints_nil).any_seq cl).any_del (by decide), by simp⟩
      simp only [relStmt, relStmtList, fmtStmt_block, es, hlead]
      simp [chars]
    | cons s0 off0 rest0 =>
      refine ⟨_, ?_, (Lines.single [] op.any_del (by decide)).append
        ((hls.indent ho).append (Lines.single [] cl.any_del (by decide))), by simp⟩
      simp only [relStmt, fmtStmt_block, es, hlead]
      rw [relStmtList_cons] at e ⊢
      dsimp only
      rw [e]
      simp [chars, hls.indent_eq]

/-- `kw (cond) body` with the body printed by `fmt_branch` up to the end of a line — `while`, and `if` without
    `else`; `hfmt` is the statement's own printing equation -/
theorem kw_good (ho : OptOK o) {kw : List Char} {kty : TokenType} (hk : Inline Delim kw [kty]) {s : Stmt}
    {i : Nat} {e : Expr} {se : Span} {b : Stmt} {sb : Span}
    (hs : s.info = mkInfo c.g i sb.last) (hnb : ∀ ss j, s ≠ .block ss j)
    (hfmt : ∀ S cond br S', fmtOptRefExpr S (some (relRefExpr S.lo (refAbs e))) = .ok cond →
      fmtBranch o S (relOptStmt S.lo (.some b 0)) '\n' = .ok br →
      sub S (relInfo S.lo (mkInfo c.g i sb.last)).range = .ok S' →
      fmtStmt o S (relStmt S.lo s) = .ok (addLeadingComments (kw ++ ([' ', '('] ++ cond) ++ [')'] ++ br) S'.toList))
    (ht : TokAt c i kty) (ht1 : TokAt c (i + 1) .LParen) (he : EGood c e se) (hse : se.first = i + 2)
    (ht2 : TokAt c (se.last + 1) .RParen) (hb : SGood c o b sb) (hsb : sb.first = se.last + 2) :
    SGood c o s ⟨i, sb.last⟩ := by
  obtain ⟨b2, b3, b4⟩ : i ≤ sb.first ∧ se.last + 1 + 1 ≤ sb.last + 1 ∧ i ≤ sb.last := by
    have := he.1
    have := hb.1
    omega
  refine SGood.intro (fun ss j h => absurd h (hnb ss j)) b4 hb.2.1 (hs ▸ mkInfo_lo c _ _) fun S hS hlo => ?_
  obtain ⟨cond, e1, hH⟩ := head_prints c hk ht ht1 he hse ht2 hS hlo
  obtain ⟨hx, hxt, mid, pfx, pfxt, eb, q1, q2, _, q4, q5, _, _, q8, q9⟩ :=
    branch_shape c o ho b sb hb '\n' (Or.inl rfl) S hS (Nat.le_trans hlo b2)
  obtain ⟨rfl, rfl⟩ := q8 rfl
  obtain ⟨S', es, _, hlead⟩ := sub_info_nc c hS hlo b4 hb.2.1
  refine ⟨⟨kw ++ ([' ', '('] ++ cond) ++ [')'] ++ hx, tysOf c i (se.last + 1 + 1) ++ hxt⟩ :: mid, ?_,
    ⟨Nat.le_succ_of_le b4, hb.2.1, List.forall_mem_cons.2 ⟨?_, q5⟩, ?_⟩, List.cons_ne_nil _ _⟩
  · rw [hfmt S cond _ S' e1 eb es, hlead]
    simp
  · exact lineOK_of (hH.2.2.any_seq ⟨q1, q2⟩).any_del (getLast_opt _ hx '\r' (getLast_concat_ne _ (by decide)) q4)
  · rw [typesOf_cons, List.append_assoc, (by simpa using q9 : hxt ++ typesOf mid = _), hsb]
    exact (tysOf_split c i _ _ hH.1 b3).symm

theorem kw_else_last : (chars "else").getLast? ≠ some '\r' := by decide

/-- the `else` part: either the lines of an `else if` (to be joined to `else `) or a branch (to be joined to `else`) -/
theorem else_el (ho : OptOK o) (x : Stmt) (sx : Span) (hx : SGood c o x sx) (S : Slice) (hS : SOK c S) (hlo : S.lo ≤ sx.first) :
    (∃ l0 ls', elseOf o S (relOptStmt S.lo (.some x 0)) = some (true, .ok (render (l0 :: ls'))) ∧
      (∀ l ∈ l0 :: ls', LineOK l) ∧ typesOf (l0 :: ls') = tysOf c sx.first (sx.last + 1)) ∨
    (∃ hxs hxt mid, elseOf o S (relOptStmt S.lo (.some x 0)) = some (false, .ok (hxs ++ '\n' :: render mid)) ∧
      PAny hxs hxt ∧ NoNL hxs ∧ (hxs = [] ∨ StartsDelim hxs) ∧ hxs.getLast? ≠ some '\r' ∧
      (∀ l ∈ mid, LineOK l) ∧ hxt ++ typesOf mid = tysOf c sx.first (sx.last + 1)) := by
  by_cases hif : ∃ c2 t2 e2 i2, x = .ifS c2 t2 e2 i2
  · left
    obtain ⟨c2, t2, e2, i2, rfl⟩ := hif
    obtain ⟨S', ef, _, _, ls, e, hl, hne⟩ := hx.ref hS hlo
    cases ls with
    | nil => exact absurd rfl hne
    | cons l0 ls' =>
      refine ⟨l0, ls', ?_, hl.2.2.1, hl.2.2.2⟩
      simp only [relOptStmt, relStmt] at e ⊢
      simp only [elseOf, ef, e]
  · right
    obtain ⟨hxs, hxt, mid, pfx, pfxt, eb, q1, q2, q3, q4, q5, _, _, q8, q9⟩ :=
      branch_shape c o ho x sx hx '\n' (Or.inl rfl) S hS hlo
    obtain ⟨rfl, rfl⟩ := q8 rfl
    refine ⟨hxs, hxt, mid, ?_, q1, q2, q3, q4, q5, by simpa using q9⟩
    have hel : elseOf o S (relOptStmt S.lo (.some x 0)) =
        some (false, fmtBranch o S (relOptStmt S.lo (.some x 0)) '\n') := by
      simp only [relOptStmt]
      cases x with
      | ifS c2 t2 e2 i2 => exact absurd ⟨c2, t2, e2, i2, rfl⟩ hif
      | _ => rfl
    rw [hel, eb]
    simp

/-- either way, `else` and what the `else` part prints is the rest `chars "else" ++ et` of the current line, then
    complete lines -/
theorem else_line (ho : OptOK o) {x : Stmt} {sx : Span} (hx : SGood c o x sx) {S : Slice} (hS : SOK c S)
    (hlo : S.lo ≤ sx.first) :
    ∃ b body et jt tail, elseOf o S (relOptStmt S.lo (.some x 0)) = some (b, .ok body) ∧
      (if b then chars "else " else chars "else") ++ body = chars "else" ++ et ++ '\n' :: render tail ∧
      Inline Delim (chars "else" ++ et) (.Else :: jt) ∧ (chars "else" ++ et).getLast? ≠ some '\r' ∧
      (∀ l ∈ tail, LineOK l) ∧ jt ++ typesOf tail = tysOf c sx.first (sx.last + 1) := by
  rcases else_el c o ho x sx hx S hS hlo with ⟨l0, ls', e, hok, hty⟩ | ⟨hys, hyt, mid, e, r1, r2, r3, r4, r5, r6⟩
  · obtain ⟨a1, a2, a3⟩ := hok l0 (List.mem_cons_self ..)
    exact ⟨true, _, ' ' :: l0.text, l0.tys, ls', e, by simp [chars],
      kw_else.del_seq (startsDelim_space _) ((Inline.lit p_space rfl).any_seq ⟨a3, a1⟩),
      getLast_opt _ (' ' :: l0.text) _ kw_else_last (getLast_opt [' '] _ _ (by decide) a2),
      fun l hl => hok l (List.mem_cons_of_mem _ hl), by simpa using hty⟩
  · exact ⟨false, _, hys, hyt, mid, e, by simp, ⟨pdel_opt kw_else.1 r3 r1, noNL_append kw_else.2 r2⟩,
      getLast_opt _ _ _ kw_else_last r4, r5, r6⟩

theorem ifelse_good (ho : OptOK o) (i : Nat) (e : Expr) (se : Span) (t : Stmt) (st : Span) (x : Stmt) (sx : Span)
    (tk tk1 tk2 tk3 : Token)
    (htk : c.g.all[i]? = some tk) (hty : tk.ty = .If)
    (htk1 : c.g.all[i + 1]? = some tk1) (hty1 : tk1.ty = .LParen)
    (he : EGood c e se) (hse : se.first = i + 2)
    (htk2 : c.g.all[se.last + 1]? = some tk2) (hty2 : tk2.ty = .RParen)
    (ht : SGood c o t st) (hst : st.first = se.last + 2)
    (htk3 : c.g.all[st.last + 1]? = some tk3) (hty3 : tk3.ty = .Else)
    (hx : SGood c o x sx) (hsx : sx.first = st.last + 2) :
    SGood c o (.ifS (some (refAbs e)) (.some t 0) (.some x 0) (mkInfo c.g i sx.last)) ⟨i, sx.last⟩ := by
  obtain ⟨b2, b3, b4, b5, b6⟩ : i ≤ st.first ∧ i ≤ sx.first ∧ i ≤ sx.last ∧
      se.last + 1 + 1 ≤ st.last + 1 ∧ st.last + 1 < sx.last + 1 := by
    have := he.1
    have := ht.1
    have := hx.1
    omega
  refine SGood.intro (fun _ _ h => nomatch h) b4 hx.2.1 (mkInfo_lo c _ _) fun S hS hlo => ?_
  obtain ⟨cond, e1, hH⟩ := head_prints c kw_if ⟨tk, htk, hty⟩ ⟨tk1, htk1, hty1⟩ he hse ⟨tk2, htk2, hty2⟩ hS hlo
  obtain ⟨hxs, hxt, mid, pfx, pfxt, eb, q1, q2, _, q4, q5, q6, q7, _, q9⟩ :=
    branch_shape c o ho t st ht ' ' (Or.inr rfl) S hS (Nat.le_trans hlo b2)
  obtain ⟨b, body, et, jt, tail, eel, ej, pj, lj, hj, tj⟩ := else_line c o ho hx hS (Nat.le_trans hlo b3)
  obtain ⟨S', es, _, hlead⟩ := sub_info_nc c hS hlo b4 hx.2.1
  refine ⟨⟨chars "if" ++ ([' ', '('] ++ cond) ++ [')'] ++ hxs, tysOf c i (se.last + 1 + 1) ++ hxt⟩ ::
    (mid ++ ⟨pfx ++ (chars "else" ++ et), pfxt ++ .Else :: jt⟩ :: tail), ?_,
    ⟨Nat.le_succ_of_le b4, hx.2.1, List.forall_mem_cons.2 ⟨?_, List.forall_mem_append.2 ⟨q5,
      List.forall_mem_cons.2 ⟨?_, hj⟩⟩⟩, ?_⟩, List.cons_ne_nil _ _⟩
  · have hcommon : ∀ bsp, ifAssemble (.ok cond) (fmtBranch o S (relOptStmt S.lo (.some t 0)) '\n') (.ok bsp)
        (some (b, .ok body)) (.ok S') = .ok (addLeadingComments (chars "if (" ++ cond ++ [')'] ++ bsp ++
          (if b then chars "else " else chars "else") ++ body) S'.toList) := by
      intro bsp
      cases b <;> rfl
    simp only [relStmt, Option.map, fmtStmt_if, eel, es]
    rw [e1, eb, hcommon, hlead,
      List.append_assoc _ _ body, ej]
    simp [chars]
  · exact lineOK_of (hH.2.2.any_seq ⟨q1, q2⟩).any_del (getLast_opt _ hxs '\r' (getLast_concat_ne _ (by decide)) q4)
  · exact lineOK_of (Inline.any_seq ⟨q6, q7⟩ pj) (by rw [getLast_append_ne _ _ (by simp [chars])]; exact lj)
  · simp only [typesOf_cons, typesOf_append]
    rw [tysOf_split c i (se.last + 1 + 1) (sx.last + 1) hH.1 (Nat.le_trans b5 (Nat.le_of_lt b6)),
      tysOf_split c (se.last + 1 + 1) (st.last + 1) (sx.last + 1) b5 (Nat.le_of_lt b6),
      tysOf_cons c ⟨tk3, htk3, hty3⟩ b6, ← hst, ← q9]
    simp [← hsx, ← tj]

structure SConf (fs : Nat) : Prop where
  stmt : ∀ ts s sp rest st, stmt c.g fs ts = some (s, sp, rest) → Al c st ts →
    SGood c o s sp ∧ sp.first = st ∧ Al c (sp.last + 1) rest
  stmts : ∀ ts ss rest st, stmts c.g fs ts = some (ss, rest) → Al c st ts →
    ∃ b, LGood c o ss st b ∧ Al c b rest ∧ ∃ r', rest = ⟨b, .RCurly⟩ :: r'

theorem stmts_conf {fs : Nat} (ih : SConf c o fs) :
    ∀ ts ss rest st, stmts c.g (fs + 1) ts = some (ss, rest) → Al c st ts →
    ∃ b, LGood c o ss st b ∧ Al c b rest ∧ ∃ r', rest = ⟨b, .RCurly⟩ :: r' := by
  intro ts ss rest st hs hal
  rw [Grammar.stmts.eq_def] at hs
  dsimp only at hs
  split at hs
  · rename_i i r
    cases hs
    obtain ⟨rfl, ht, _⟩ := al_cons c hal
    exact ⟨_, LGood.intro (Nat.le_refl _) (Nat.le_of_lt ht.lt) fun S _ _ =>
      ⟨[], rfl, Lines.nil (Nat.le_of_lt ht.lt), by simp⟩, hal, r, rfl⟩
  · split at hs
    · cases hs
    · rename_i s sp r h1
      obtain ⟨gs, rfl, as⟩ := ih.stmt ts s sp r st h1 hal
      have hs1 := gs.1
      split at hs
      · rename_i ss2 r1 h2
        cases hs
        obtain ⟨b, lg, ab, hr'⟩ := ih.stmts _ _ _ _ h2 as
        refine ⟨b, LGood.intro (by have := lg.1; omega) lg.2.1 fun S hS hlo => ?_, ab, hr'⟩
        obtain ⟨S', ef, _, _, ls1, e1, l1, ne1⟩ := gs.ref hS hlo
        obtain ⟨ls2, e2, l2, _⟩ := lg.lines hS (by omega)
        refine ⟨ls1 ++ ls2, ?_, l1.append l2, by simp [ne1]⟩
        simp only [relStmtList, fmtStmtList_cons, ef, e1, e2, Except.map, render_append]
      · cases hs

theorem stmt_conf (ho : OptOK o) {fs : Nat} (ih : SConf c o fs) : Derives c (SGood c o) (stmt c.g (fs + 1)) := by
  intro ts s sp rest st hs hal
  cases ts with
  | nil => cases hs
  | cons t0 r =>
  obtain ⟨i, ty⟩ := t0
  obtain ⟨rfl, ⟨tk, htk, hty⟩, al1⟩ := al_cons c hal
  rcases ParseConform.stmt_head hs with rfl | rfl | rfl | rfl | ⟨nm, rfl⟩
  · cases hs
    exact ⟨empty_good c o ⟨tk, htk, hty⟩, rfl, al1⟩
  · obtain ⟨ilp, tylp, r1, e, se, irp, tyrp, r3, t, stt, r4, rfl, klp, he, krp, ht, helse⟩ :=
      ParseConform.stmt_if_flat _ _ _ _ _ _ _ hs
    obtain ⟨_, ⟨tk1, htk1, hty1⟩, a1⟩ := al_kind al1 klp rfl
    obtain ⟨ge, fe, ae⟩ := expression_format_lexes c he a1
    obtain ⟨_, ⟨tk2, htk2, hty2⟩, a3⟩ := al_kind ae krp rfl
    obtain ⟨gt, ft, a4⟩ := ih.stmt _ _ _ _ _ ht a3
    rcases helse with ⟨ie, r5, x, sx, rfl, hx, rfl, rfl⟩ | ⟨_, rfl, rfl, rfl⟩
    · obtain ⟨_, ⟨tk3, htk3, hty3⟩, a5⟩ := al_cons c a4
      obtain ⟨gx, fx, ax⟩ := ih.stmt _ _ _ _ _ hx a5
      exact ⟨ifelse_good c o ho _ e se t stt x sx tk tk1 tk2 tk3 htk hty htk1 hty1 ge fe htk2 hty2 gt ft htk3 hty3 gx fx,
        rfl, ax⟩
    · refine ⟨kw_good c o ho kw_if rfl (fun _ _ h => nomatch h) (fun S cond br S' e1 e2 es => ?_) ⟨tk, htk, hty⟩
        ⟨tk1, htk1, hty1⟩ ge fe ⟨tk2, htk2, hty2⟩ gt ft, rfl, a4⟩
      simp only [relOptStmt] at e2
      simp only [relStmt, Option.map, relOptStmt, fmtStmt_if, elseOf, ifAssemble, e1, es, e2, Except.map]
      simp [chars]
  · obtain ⟨ilp, tylp, r1, e, se, irp, tyrp, r3, b, sb, rfl, klp, he, krp, hb, rfl, rfl⟩ :=
      ParseConform.stmt_while_flat _ _ _ _ _ _ _ hs
    obtain ⟨_, ht1, a1⟩ := al_kind al1 klp rfl
    obtain ⟨ge, fe, ae⟩ := expression_format_lexes c he a1
    obtain ⟨_, ht2, a3⟩ := al_kind ae krp rfl
    obtain ⟨gb, fb, ab⟩ := ih.stmt _ _ _ _ _ hb a3
    refine ⟨kw_good c o ho kw_while rfl (fun _ _ h => nomatch h) (fun S cond br S' e1 e2 es => ?_) ⟨tk, htk, hty⟩ ht1 ge fe
      ht2 gb fb, rfl, ab⟩
    simp only [relStmt, Option.map, fmtStmt_while, e1, e2, es]
    simp [chars]
  · obtain ⟨ss, j, tyj, hss, kj, rfl, rfl⟩ := ParseConform.stmt_block_flat _ _ _ _ _ _ _ hs
    obtain ⟨b, lg, ab, r', e⟩ := ih.stmts r ss _ _ hss al1
    cases e
    exact ⟨block_good c o (by have := lg.1; omega) ⟨tk, htk, hty⟩ ab.2.1 ho lg, rfl, ab.2.2⟩
  · by_cases hc : ∃ k r', r = ⟨k, .LParen⟩ :: r'
    · obtain ⟨k, r', rfl⟩ := hc
      obtain ⟨as, irp, tyrp, j, tyj, hargs, krp, kj, rfl, rfl⟩ := ParseConform.stmt_call_flat _ _ _ _ _ _ _ _ _ hs
      obtain ⟨_, ht1, a1⟩ := al_cons c al1
      obtain ⟨rp, hA, a2⟩ : ∃ rp, ((as = [] ∧ rp = i + 2) ∨ AGood c as (i + 2) rp) ∧
          Al c rp (⟨irp, tyrp⟩ :: ⟨j, tyj⟩ :: rest) := by
        rcases hargs with ⟨_, _, _, rfl, e⟩ | ⟨_, hl⟩
        · exact ⟨_, Or.inl ⟨rfl, rfl⟩, e ▸ a1⟩
        · obtain ⟨b, ga, aa⟩ := exprList_good c _ _ _ _ _ hl a1
          exact ⟨b, Or.inr ga, aa⟩
      obtain ⟨_, ht2, a3⟩ := al_kind a2 krp rfl
      obtain ⟨rfl, ht3, a4⟩ := al_kind a3 kj rfl
      exact ⟨call_good c o ⟨tk, htk, hty⟩ ht1 hA ht2 ht3, rfl, a4⟩
    · obtain ⟨v, sv, ias, tyas, r1, e, se, j, tyj, hv, kas, he, kj, rfl, rfl⟩ :=
        ParseConform.stmt_assign_flat _ _ _ _ _ _ _ _ (fun k r' e => hc ⟨k, r', e⟩) hs
      obtain ⟨gv, fv, av⟩ := (FmtExpr.conf_all c _).varAccess _ v sv _ _ hv hal
      obtain ⟨_, ht1, a1⟩ := al_kind av kas rfl
      obtain ⟨ge, fe, ae⟩ := expression_format_lexes c he a1
      obtain ⟨rfl, ht2, a4⟩ := al_kind ae kj rfl
      exact ⟨fv ▸ assign_good c o gv ht1 ge fe ht2, rfl, a4⟩

theorem sconf_all (ho : OptOK o) : ∀ fs, SConf c o fs := by
  intro fs
  induction fs with
  | zero => constructor <;> intros <;> contradiction
  | succ fs ih => exact ⟨stmt_conf c o ho ih, stmts_conf c o ih⟩

end Spl.FmtStmt
