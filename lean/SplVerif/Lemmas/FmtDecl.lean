/-
  C09 for declarations and whole programs: type expressions, type / parameter / variable / procedure declarations,
  and the program (declarations separated by an empty line).
-/
import SplVerif.Lemmas.FmtStmt
import SplVerif.Lemmas.ParseConformDecl

namespace Spl.FmtDecl
open Spl Spl.Grammar Spl.Fmt Spl.FmtLex Spl.Feat Spl.FmtExpr Spl.FmtStmt

variable {c : Ctx}

variable (c) in
/-- a non-empty inline piece that may end a line (`str::lines` strips a final `\r`) -/
def Item (s : List Char) (a b : Nat) : Prop := Prints c Delim s a b ∧ s ≠ [] ∧ s.getLast? ≠ some '\r'

theorem Item.pre {s1 s2 a b d} (h1 : Prints c (fun _ => True) s1 a b) (h2 : Item c s2 b d) :
    Item c (s1 ++ s2) a d :=
  ⟨h1.any_seq h2.1, by simp [h2.2.1], getLast_append_ne s1 s2 h2.2.1 ▸ h2.2.2⟩

theorem Item.del_pre {s1 s2 x a b d} (h1 : Prints c Delim s1 a b) (h2 : Item c (x :: s2) b d)
    (hx : delimChar x = true) : Item c (s1 ++ x :: s2) a d :=
  ⟨h1.del_cons h2.1 hx, by simp, getLast_append_ne s1 _ h2.2.1 ▸ h2.2.2⟩

theorem ident_item {i s} (h : TokAt c i (.Ident s)) : Item c s i (i + 1) := by
  refine ⟨(ident_prints c h).1, (ident_prints c h).2, fun e => ?_⟩
  obtain ⟨tk, htk, hty⟩ := h
  have hwf := hty ▸ c.wf i tk htk
  match s, hwf with
  | ch :: tl, hwf =>
    simp only [tokWF, Bool.and_eq_true, List.all_eq_true] at hwf
    exact absurd (wordChar_cons hwf.1.1 hwf.1.2 _ (List.mem_of_getLast? e)) (by decide)

theorem kw_blank (w : List Char) {ty} (h : LexSpec.keywords.find? (·.2 == ty) = some (w, ty)) :
    Inline (fun _ => True) (w ++ [' ']) [ty] :=
  ⟨pdel_blank (keyword_at h).1, noNL_append (keyword_at h).2 (noNL_of_b rfl)⟩

variable (c) in
def TGood (t : TypeExpr) (sp : Span) : Prop :=
  sp.first ≤ sp.last ∧ sp.last < c.g.all.size ∧ t.info.range.lo = sp.first ∧
  ∀ S : Slice, SOK c S → S.lo ≤ sp.first → ∃ s, fmtType S (relType S.lo t) = .ok s ∧ Item c s sp.first (sp.last + 1)

theorem type_from {t sp S} (ht : TGood c t sp) (hS : SOK c S) (hlo : S.lo ≤ sp.first) :
    ∃ S' s, from' S (t.info.range.lo - S.lo) = .ok S' ∧ fmtType S' (relType t.info.range.lo t) = .ok s ∧
      Item c s sp.first (sp.last + 1) := by
  obtain ⟨b1, b2, b3, b4⟩ := ht
  obtain ⟨S', ef, hS', hlo'⟩ := from_ref hS (a := t.info.range.lo) (by omega) (by omega)
  obtain ⟨s, e, r⟩ := b4 S' hS' (by omega)
  exact ⟨S', s, ef, hlo' ▸ e, r⟩

theorem typeExpr_good (fuel : Nat) : Derives c (TGood c) (typeExpr c.g fuel) := by
  induction fuel with
  | zero => exact fun _ _ _ _ _ hs _ => nomatch hs
  | succ fuel ih =>
  intro ts t sp rest st hs hal
  match ts, hs, hal with
  | [], hs, _ => exact nomatch hs
  | ⟨i, ty⟩ :: r, hs, hal =>
    obtain ⟨rfl, t0, al0⟩ := al_cons c hal
    by_cases harr : ty = .Array
    · subst harr
      obtain ⟨i1, ty1, r1, sz, isz, i3, ty3, i4, ty4, r4, b, sb, rfl, k1, h2, k3, k4, h5, rfl, rfl⟩ :=
        ParseConform.typeExpr_array _ _ _ _ _ _ _ hs
      obtain ⟨rfl, t1, al1⟩ := al_kind al0 k1 rfl
      obtain ⟨tyl, rfl, hsz, hkl⟩ := intLitTok_some h2
      obtain ⟨rfl, t2, al2⟩ := al_cons c al1
      obtain ⟨rfl, t3, al3⟩ := al_kind al2 k3 rfl
      obtain ⟨rfl, t4, al4⟩ := al_kind al3 k4 rfl
      obtain ⟨gb, fb, ab⟩ := ih r4 b sb rest _ h5 al4
      have hle := gb.1
      refine ⟨⟨by dsimp only; omega, gb.2.1, mkInfo_lo c _ _, fun S hS hlo => ?_⟩, rfl, ab⟩
      dsimp only at hlo ⊢
      obtain ⟨S', bs, ef, eb, ib⟩ := type_from gb hS (by omega)
      obtain ⟨ls, el, pl, _⟩ := Good.prints (lit_good c t2 hsz hkl) hS (by dsimp only; omega)
      simp only [relExpr, fmtExpr] at el
      refine ⟨_, ?_, Item.pre (Prints.tok t0 (kw_blank (chars "array") rfl)) (Item.pre (Prints.sym t1 p_lbracket rfl)
        (Item.del_pre pl (Item.pre (Prints.sym t3 (pany_seq p_rbracket p_space) rfl)
          (Item.pre (Prints.tok t4 (kw_blank (chars "of") rfl)) (fb ▸ ib))) rfl))⟩
      simp only [relType, relOptType, Option.map, fmtType, el, ef, eb, Except.map]
      simp [chars]
    · rw [ParseConform.typeExpr_other _ _ _ _ _ harr] at hs
      split at hs
      · rename_i j s r' h1
        cases ParseConform.identTok_some _ _ _ _ h1
        cases hs
        exact ⟨⟨Nat.le_refl _, t0.lt, mkInfo_lo c _ _, fun S hS hlo =>
          ⟨s, by simp [relType, relIdent, mkIdent, fmtType], ident_item t0⟩⟩, rfl, al0⟩
      · cases hs

/-- `x: T` in parameters and variable declarations, `x = T` in type declarations, from the tokens at `i` on -/
theorem named_type {i j nm is tys k mty x m fuel r t stt rest S} (hal : Al c i (⟨j, .Ident nm⟩ :: ⟨is, tys⟩ :: r))
    (hk : (tys.kind == k) = true) (hp : k.plain = some mty) (hm : PAny (x :: m) [mty]) (hn : noNLb (x :: m) = true)
    (hx : delimChar x = true) (h3 : typeExpr c.g fuel r = some (t, stt, rest)) (hS : SOK c S) (hlo : S.lo ≤ i) :
    ∃ te, fmtOptRefType S (some (relRefType S.lo ⟨t, 0⟩)) = .ok te ∧ Item c (nm ++ x :: (m ++ te)) i (stt.last + 1) ∧
      i + 2 ≤ stt.last ∧ Al c (stt.last + 1) rest := by
  obtain ⟨rfl, t1, al1⟩ := al_cons c hal
  obtain ⟨rfl, t2, al2⟩ := al_kind al1 hk hp
  obtain ⟨gt, ft, al3⟩ := typeExpr_good _ _ _ _ _ _ h3 al2
  obtain ⟨S', te, ef, e, it⟩ := type_from gt hS (by omega)
  exact ⟨te, by simp only [fmtOptRefType, relRefType, ef, e],
    Item.del_pre (ident_item t1).1 (Item.pre (Prints.sym t2 hm hn) (ft ▸ it)) hx, ft ▸ gt.1, al3⟩

/-- the text of one parameter or variable declaration as `fmtProcDecl` computes it -/
def itemText {α : Type} (f : α → Slice → R) (info : α → AstInfo) (S : Slice) (x : Ref α) : R :=
  match from' S x.offset with
  | .error p => .error p
  | .ok sl =>
    match f x.val sl, sliceOfInfo sl (info x.val) with
    | .ok s, .ok ts => .ok (addAllComments s ts)
    | .error p, _ => .error p
    | _, .error p => .error p

theorem param_core (isRef : Bool) (doc : List (List Char)) (name : Identifier) {f i j is tys r fuel t stt rest S}
    (hpre : Prints c (fun _ => True) (if isRef then chars "ref" ++ [' '] else []) f i)
    (hal : Al c i (⟨j, .Ident name.value⟩ :: ⟨is, tys⟩ :: r)) (hk : (tys.kind == Kind.Colon) = true)
    (h3 : typeExpr c.g fuel r = some (t, stt, rest)) (hS : SOK c S) (hlo : S.lo ≤ f) :
    (∃ s, itemText fmtParamDecl ParamDecl.info S
      (relParam S.lo (refAbs (.valid doc isRef (some name) (some (refAbs t)) (mkInfo c.g f stt.last)))) = .ok s ∧
      Item c s f (stt.last + 1)) ∧ Al c (stt.last + 1) rest := by
  have hfi := hpre.1
  obtain ⟨S', ef, hS', rfl⟩ := from_ref hS hlo (Nat.le_trans hfi hpre.2.1)
  obtain ⟨te, e1, it, hst, al3⟩ := named_type hal hk rfl p_colon rfl rfl h3 hS' hfi
  obtain ⟨T, es, hall, _⟩ := sub_info_nc c hS' (Nat.le_refl _) (by omega) it.1.2.1
  refine ⟨⟨_, ?_, Item.pre hpre it⟩, al3⟩
  simp only [itemText, relParam, refAbs, ParamDecl.info, mkInfo_lo, ef, fmtParamDecl, sliceOfInfo, Option.map, e1, es, Except.map, hall]
  simp [chars, optIdent, relIdent]

theorem param_good {ts r p st S} (h : param c.g ts = some (p, r)) (hal : Al c st ts) (hS : SOK c S) (hlo : S.lo ≤ st) :
    ∃ last, (∃ s, itemText fmtParamDecl ParamDecl.info S (relParam S.lo (refAbs p)) = .ok s ∧ Item c s st (last + 1)) ∧
      Al c (last + 1) r := by
  rcases ParseConform.param_flat _ _ _ _ h with
    ⟨f, i, nm, icol, tycol, r1, t, stt, rfl, k, h3, rfl⟩ | ⟨i, nm, icol, tycol, r1, t, stt, rfl, k, h3, rfl⟩
  · obtain ⟨rfl, t0, al0⟩ := al_cons c hal
    exact ⟨_, param_core true _ _ (Prints.tok t0 (kw_blank _ rfl)) al0 k h3 hS hlo⟩
  · obtain ⟨rfl, t1, _⟩ := al_cons c hal
    exact ⟨_, param_core false _ _ (Prints.nil (Nat.le_of_lt t1.lt)) hal k h3 hS hlo⟩

variable (c) in
/-- parameter texts for the tokens `a … b-1`, with a `,` token between two of them -/
def PChain : List (List Char) → Nat → Nat → Prop
  | [], _, _ => False
  | [s], a, b => Item c s a b
  | s :: ss, a, b => ∃ k, Item c s a k ∧ TokAt c k .Comma ∧ PChain ss (k + 1) b

theorem params_good {S} (hS : SOK c S) (fuel : Nat) : ∀ ts ps r st, params c.g fuel ts = some (ps, r) → Al c st ts → S.lo ≤ st →
    ∃ b ss, (ps.map (relParam S.lo)).mapM (itemText fmtParamDecl ParamDecl.info S) = .ok ss ∧ PChain c ss st b ∧ Al c b r := by
  induction fuel with
  | zero => exact fun _ _ _ _ hs => nomatch hs
  | succ fuel ih =>
    intro ts ps r st hs hal hlo
    simp only [Grammar.params] at hs
    split at hs
    · cases hs
    · rename_i p r0 h1
      obtain ⟨last, ⟨s, e1, it⟩, ap⟩ := param_good h1 hal hS hlo
      split at hs
      · rename_i ci r1
        split at hs
        · rename_i ps2 r2 h2
          cases hs
          obtain ⟨rfl, tc, a1⟩ := al_cons c ap
          have := it.1.1
          obtain ⟨b, ss, e2, ch, a2⟩ := ih r1 ps2 _ _ h2 a1 (by omega)
          refine ⟨b, s :: ss, mapM_cons_ok e1 e2, ?_, a2⟩
          cases ss with
          | nil => exact ch.elim
          | cons s' ss => exact ⟨_, it, tc, ch⟩
        · cases hs
      · cases hs
        exact ⟨_, [s], mapM_cons_ok e1 rfl, it, ap⟩

theorem chain_inline : ∀ ss a b, PChain c ss a b → Item c (joinSep (chars ", ") ss) a b
  | [_], _, _, h => h
  | s :: s' :: ss, _, _, ⟨_, it, tc, h⟩ => by
    show Item c (s ++ chars ", " ++ joinSep (chars ", ") (s' :: ss)) _ _
    rw [List.append_assoc]
    exact Item.del_pre it.1 (Item.pre (Prints.sym tc p_comma_sp rfl) (chain_inline _ _ _ h)) rfl

theorem chain_lines : ∀ ss a b, PChain c ss a b →
    ∃ (A : List Line) (last : Line), joinSep (chars ",\n") ss = render A ++ last.text ∧ last.text ≠ [] ∧ Lines c (A ++ [last]) a b
  | [_], _, _, h => ⟨[], _, rfl, h.2.1, h.1.1, h.1.2.1, List.forall_mem_singleton.mpr (lineOK_of h.1.2.2 h.2.2), by simp⟩
  | s :: s' :: ss, _, _, ⟨_, it, tc, h⟩ => by
    obtain ⟨A, last, e, ne, hl⟩ := chain_lines (s' :: ss) _ _ h
    refine ⟨_ :: A, last, ?_, ne, (Lines.single s (it.1.del_cons (Prints.sym tc p_comma rfl) rfl).any_del (by decide)).append hl⟩
    show s ++ chars ",\n" ++ joinSep (chars ",\n") (s' :: ss) = _
    rw [e]
    simp [chars]

/-- `str::lines` does not care whether the last line is terminated -/
theorem lines_go_nl : ∀ (s cur : List Char), s ≠ [] → s.getLast? ≠ some '\n' →
    Fmt.lines.go (s ++ ['\n']) cur = Fmt.lines.go s cur
  | [], _, h, _ => absurd rfl h
  | [x], cur, _, hl => by
    have hx : (x == '\n') = false := by simpa using hl
    simp [Fmt.lines.go, hx]
  | x :: y :: t, cur, _, hl => by
    have ih := fun cur' => lines_go_nl (y :: t) cur' (List.cons_ne_nil y t) (by simpa using hl)
    simp only [List.cons_append, Fmt.lines.go] at ih ⊢
    simp only [ih]

theorem indent_render_tail (o : Options) {ls} {last : Line} {a b} (h : Lines c (ls ++ [last]) a b)
    (hne : last.text ≠ []) : indent (render ls ++ last.text) o = render ((ls ++ [last]).map (indentLine o)) := by
  have hn : (render ls ++ last.text).getLast? ≠ some '\n' := by
    rw [getLast_append_ne _ _ hne]
    exact fun e => (h.2.2.1 last (by simp)).1 _ (List.mem_of_getLast? e) rfl
  rw [← h.indent_eq, indent, indent, Fmt.lines, Fmt.lines, render_append, render_cons, render_nil,
    ← List.append_assoc, lines_go_nl _ [] (by simp [hne]) hn]

/-- the four shapes of a procedure in `fmtProcDecl`, by whether it has variable declarations and statements -/
def procBody (head vds ss : List Char) : List Char :=
  match vds.isEmpty, ss.isEmpty with
  | true, true => head ++ chars "}\n"
  | true, false => head ++ ['\n'] ++ ss ++ chars "}\n"
  | false, true => head ++ ['\n'] ++ vds ++ chars "}\n"
  | false, false => head ++ ['\n'] ++ vds ++ ['\n'] ++ ss ++ chars "}\n"

/-- the parameter list in `fmtProcDecl`: on one line, or one parameter per line if there are more than three or a comment -/
def paramsText (o : Options) (pv : List (List Char)) : List Char :=
  if pv.isEmpty then []
  else if pv.length > 3 || pv.any containsSlashes then ['\n'] ++ indent (joinSep (chars ",\n") pv) o
  else joinSep (chars ", ") pv

theorem fmtProcDecl_eq (o : Options) (pd : ProcDecl) (S : Slice) :
    fmtProcDecl o pd S =
      match pd.params.mapM (itemText fmtParamDecl ParamDecl.info S) with
      | .error p => .error p
      | .ok pv =>
        match (pd.vars.mapM (itemText fmtVarDecl VarDecl.info S)).map List.flatten with
        | .error p => .error p
        | .ok vds =>
          match fmtStmtList o S (StmtList.ofList pd.stmts) with
          | .error p => .error p
          | .ok ss =>
            (sliceOfInfo S pd.info).map (fun ts => addLeadingComments
              (procBody (chars "proc " ++ optIdent pd.name ++ ['('] ++ paramsText o pv ++ chars ") {") (indent vds o) (indent ss o)) ts) := by
  rfl

theorem varDecls_good {S} (hS : SOK c S) (fuel : Nat) : ∀ ts vs r st, varDecls c.g fuel ts = some (vs, r) → Al c st ts →
    S.lo ≤ st → st ≤ c.g.all.size → ∃ b ls, Lines c ls st b ∧
      (vs.map (relVarDecl S.lo)).mapM (itemText fmtVarDecl VarDecl.info S) = .ok (ls.map (fun l => l.text ++ ['\n'])) ∧ Al c b r := by
  induction fuel with
  | zero => exact fun _ _ _ _ hs => nomatch hs
  | succ fuel ih =>
    intro ts vs r st hs hal hlo hsz
    by_cases hvar : ∃ i r0, ts = ⟨i, .Var⟩ :: r0
    · obtain ⟨i, r0, rfl⟩ := hvar
      obtain ⟨j, nm, icol, tycol, r2, t, stt, k, tyk, r4, vs', rfl, kc, h3, ks, h5, rfl⟩ :=
        ParseConform.varDecls_var_flat _ _ _ _ _ _ hs
      obtain ⟨rfl, t0, al0⟩ := al_cons c hal
      obtain ⟨S', ef, hS', rfl⟩ := from_ref hS hlo hsz
      obtain ⟨te, e, it, hst, at3⟩ := named_type al0 kc rfl p_colon rfl rfl h3 hS' (Nat.le_succ _)
      obtain ⟨rfl, t3, al4⟩ := al_kind at3 ks rfl
      obtain ⟨b, ls, h2, e2, a5⟩ := ih r4 vs' r _ h5 al4 (by omega) t3.lt
      obtain ⟨T, es, hall, _⟩ := sub_info_nc c hS' (Nat.le_refl _) (by omega) t3.lt
      refine ⟨b, _ :: ls, (Lines.single _ (((Prints.tok t0 (kw_blank (chars "var") rfl)).any_seq
        it.1).del_cons (Prints.sym t3 p_semic rfl) rfl).any_del (by decide)).append h2, mapM_cons_ok ?_ e2, a5⟩
      simp only [itemText, relVarDecl, refAbs, VarDecl.info, mkInfo_lo, ef, fmtVarDecl, sliceOfInfo, Option.map, e, es, Except.map, hall]
      simp [chars, optIdent, relIdent, mkIdent]
    · rw [ParseConform.varDecls_other _ _ _ (fun i r e => hvar ⟨i, r, e⟩)] at hs
      cases hs
      exact ⟨st, [], Lines.nil hsz, rfl, hal⟩

theorem render_isEmpty (ls : List Line) : (render ls).isEmpty = ls.isEmpty := by
  cases ls with
  | nil => rfl
  | cons l t =>
    simp only [render_cons, List.isEmpty_cons]
    cases l.text <;> rfl

theorem ofList_rel (b : Nat) : ∀ (ss : StmtList), StmtList.ofList (ss.toList.map (relRefStmt b)) = relStmtList b ss
  | .nil => rfl
  | .cons s off rest => by
    simp only [StmtList.toList, List.map_cons, StmtList.ofList, relRefStmt, relStmtList]
    rw [ofList_rel b rest]

theorem _root_.Spl.FmtStmt.Lines.blank {ls a b} (h : Lines c ls a b) : Lines c (⟨[], []⟩ :: ls) a b :=
  ⟨h.1, h.2.1, List.forall_mem_cons.mpr ⟨lineOK_of ⟨p_nil _, fun _ hx => absurd hx List.not_mem_nil⟩ (by simp), h.2.2.1⟩,
    h.2.2.2⟩

theorem procBody_lines {Lh Lv Ls H i m v s k} (hLh : Lines c Lh i m)
    (hH : Prints c (fun _ => True) (H ++ ['{']) m v) (hLv : Lines c Lv v s) (hLs : Lines c Ls s k) (t5 : TokAt c k .RCurly) :
    ∃ ls, procBody (render Lh ++ (H ++ ['{'])) (render Lv) (render Ls) = render ls ∧ Lines c ls i (k + 1) := by
  have hrc := Prints.sym t5 p_rcurly rfl
  have hh := Lines.single H hH.any_del (by decide)
  have hr := Lines.single [] hrc.any_del (by decide)
  unfold procBody
  rw [render_isEmpty, render_isEmpty]
  cases Lv with
  | nil =>
    cases Ls with
    | nil =>
      exact ⟨_, by simp [chars], hLh.append (Lines.single _ (hH.any_seq (hLv.prints_nil.any_seq (hLs.prints_nil.any_seq hrc))).any_del
        (by decide))⟩
    | cons s0 srest => exact ⟨_, by simp [chars], hLh.append (hh.append ((hLv.append hLs).append hr))⟩
  | cons v0 vrest =>
    cases Ls with
    | nil => exact ⟨_, by simp [chars], hLh.append (hh.append ((hLv.append hLs).append hr))⟩
    | cons s0 srest => exact ⟨_, by simp [chars], hLh.append (hh.append ((hLv.append hLs.blank).append hr))⟩

theorem head_lines (o : Options) (ho : OptOK o) {i a rp op ss}
    (hop : Prints c (fun _ => True) (op ++ ['(']) i a) (hps : (ss = [] ∧ rp = a) ∨ PChain c ss a rp)
    (t3 : TokAt c rp .RParen) (t4 : TokAt c (rp + 1) .LCurly) :
    ∃ Lh H m, op ++ ['('] ++ paramsText o ss ++ chars ") {" = render Lh ++ (H ++ ['{']) ∧
      Lines c Lh i m ∧ Prints c (fun _ => True) (H ++ ['{']) m (rp + 2) := by
  have hrp := Prints.sym t3 (pany_seq p_rparen p_space) rfl
  have hlc := Prints.sym t4 p_lcurly rfl
  have hi := Lines.nil (Nat.le_trans hop.1 hop.2.1)
  rcases hps with ⟨rfl, rfl⟩ | hch
  · exact ⟨[], _, i, by simp [paramsText, chars], hi, (hop.any_seq hrp).any_seq hlc⟩
  · have hemp : ss.isEmpty = false := by
      cases ss with
      | nil => exact hch.elim
      | cons _ _ => rfl
    by_cases hcond : (ss.length > 3 || ss.any containsSlashes) = true
    · obtain ⟨A, last, e, ne, hl⟩ := chain_lines ss _ _ hch
      refine ⟨_ :: (A ++ [last]).map (indentLine o), _, rp, ?_, (Lines.single _ hop.any_del (by decide)).append (hl.indent ho),
        hrp.any_seq hlc⟩
      simp only [paramsText, hemp, hcond, Bool.false_eq_true, if_false, if_true, e, indent_render_tail o hl ne]
      simp [chars]
    · refine ⟨[], _, i, ?_, hi, (hop.any_seq ((chain_inline ss _ _ hch).1.del_cons hrp rfl)).any_seq hlc⟩
      simp [paramsText, hemp, hcond, chars]

theorem flatten_lines (ls : List Line) : (ls.map (fun l => l.text ++ ['\n'])).flatten = render ls := by
  simp [render, List.flatMap_def]

/-- the text of one global declaration as `fmtProgram` computes it -/
def declText (o : Options) (A : Array Token) (gd : Ref GlobalDecl) : R :=
  match from' (Slice.full A) gd.offset with
  | .error e => (Except.error e : R)
  | .ok sl => fmtGlobalDecl o gd.val sl

theorem fmtProgram_eq (o : Options) (p : Program) (A : Array Token) :
    fmtProgram o p A = match p.decls.mapM (declText o A) with
      | .error e => .error e
      | .ok ds => .ok (joinSep ['\n'] ds) := rfl

theorem from_full {i} (h : i ≤ c.g.all.size) : ∃ S, from' (Slice.full c.g.all) i = .ok S ∧ SOK c S ∧ S.lo = i :=
  from_ref ⟨rfl, rfl, Nat.zero_le _⟩ (Nat.zero_le i) h

variable (c) in
/-- the first of the declarations `ds` printed as lines for the tokens `st … b-1`; the others are derived from `r'` -/
def DStep (o : Options) (fd : Nat) (ds : List (Ref GlobalDecl)) (st : Nat) : Prop :=
  ∃ d ds' last' r' b ls, ds = d :: ds' ∧ decls c.g fd r' = some (ds', last') ∧ Al c b r' ∧
    declText o c.g.all (relDecl d) = .ok (render ls) ∧ Lines c ls st b

theorem typeDecl_step (o : Options) {fd i st r ds last}
    (hs : decls c.g (fd + 1) (⟨i, .Type⟩ :: r) = some (ds, last)) (hal : Al c st (⟨i, .Type⟩ :: r)) : DStep c o fd ds st := by
  obtain ⟨td, k, r4, ds', last', ⟨⟨j, nm, ieq, tyeq, r2, t, stt, tyk, rfl, ke, h3, ks, rfl⟩⟩, h5, rfl, _⟩ :=
    ParseConform.decls_type_flat _ _ _ _ _ _ hs
  obtain ⟨rfl, t0, al0⟩ := al_cons c hal
  obtain ⟨S, ef, hS, hlo⟩ := from_full (Nat.le_of_lt t0.lt)
  subst hlo
  obtain ⟨te, e, it, hst, at3⟩ := named_type al0 ke rfl (pany_seq p_space (pany_seq p_eq p_space)) rfl rfl h3 hS (Nat.le_succ _)
  obtain ⟨rfl, t3, al4⟩ := al_kind at3 ks rfl
  obtain ⟨T, es, _, hlead⟩ := sub_info_nc c hS (Nat.le_refl _) (by omega) t3.lt
  refine ⟨_, ds', last', r4, _, _, rfl, h5, al4, ?_, Lines.single _ (((Prints.tok t0 (kw_blank (chars "type") rfl)).any_seq
    it.1).del_cons (Prints.sym t3 p_semic rfl) rfl).any_del (by decide)⟩
  simp only [declText, relDecl, refAbs, GlobalDecl.info, mkInfo_lo, ef, Option.map, relIdent, mkIdent, fmtGlobalDecl,
    fmtTypeDecl, e, es, Except.map, hlead]
  simp [chars]

theorem procDecl_step (o : Options) (ho : OptOK o) {fd i st r ds last}
    (hs : decls c.g (fd + 1) (⟨i, .Proc⟩ :: r) = some (ds, last)) (hal : Al c st (⟨i, .Proc⟩ :: r)) : DStep c o fd ds st := by
  obtain ⟨j, nm, ilp, tylp, r2, ps, irp, tyrp, ilc, tylc, r5, vs, r6, ss, k, tyk, r8, ds', last', rfl, klp, hpar, krp, klc,
    h6, h7, krc, h9, rfl, _⟩ := ParseConform.decls_proc_flat _ _ _ _ _ _ hs
  obtain ⟨rfl, t0, al0⟩ := al_cons c hal
  obtain ⟨rfl, t1, al1⟩ := al_cons c al0
  obtain ⟨rfl, t2, al2⟩ := al_kind al1 klp rfl
  obtain ⟨S, ef, hS, hlo⟩ := from_full (Nat.le_of_lt t0.lt)
  subst hlo
  obtain ⟨rp, pv, ep, hpv, a3⟩ : ∃ rp pv, (ps.map (relParam S.lo)).mapM (itemText fmtParamDecl ParamDecl.info S) = .ok pv ∧
      ((pv = [] ∧ rp = S.lo + 3) ∨ PChain c pv (S.lo + 3) rp) ∧ Al c rp (⟨irp, tyrp⟩ :: ⟨ilc, tylc⟩ :: r5) := by
    rcases hpar with ⟨x, r', _, rfl, e⟩ | ⟨_, hp⟩
    · exact ⟨_, [], rfl, Or.inl ⟨rfl, rfl⟩, e ▸ al2⟩
    · obtain ⟨rp, pv, ep, ch, ap⟩ := params_good hS _ _ _ _ _ hp al2 (by omega)
      exact ⟨rp, pv, ep, Or.inr ch, ap⟩
  obtain ⟨rfl, t3, a4⟩ := al_kind a3 krp rfl
  obtain ⟨rfl, t4, a5⟩ := al_kind a4 klc rfl
  obtain ⟨Lh, H, m, eh, hLh, hH⟩ := head_lines o ho (((Prints.tok t0 (kw_blank (chars "proc") rfl)).any_seq
    (ident_item t1).1).del_cons (Prints.sym t2 p_lparen rfl) rfl) hpv t3 t4
  have := hLh.1
  have := hH.1
  obtain ⟨bv, lv, hv, ev, a6⟩ := varDecls_good hS _ _ _ _ _ h6 a5 (by omega) t4.lt
  have := hv.1
  obtain ⟨k', lg, ab, r', hr'⟩ := (sconf_all c o ho _).stmts _ _ _ _ h7 a6
  cases hr'
  obtain ⟨_, t5, a8⟩ := al_cons c ab
  have := lg.1
  obtain ⟨lss, es, hs', _⟩ := lg.lines hS (by omega)
  obtain ⟨ls, eb, hls⟩ := procBody_lines hLh hH (hv.indent ho) (hs'.indent ho) t5
  obtain ⟨T, esub, _, hlead⟩ := sub_info_nc c hS (Nat.le_refl _) (by omega) t5.lt
  refine ⟨_, ds', last', r8, _, ls, rfl, h9, a8, ?_, hls⟩
  simp only [declText, ef, relDecl, refAbs, GlobalDecl.info, mkInfo_lo, fmtGlobalDecl, fmtProcDecl_eq, Option.map, ep, ev, Except.map,
    flatten_lines, ofList_rel, es, sliceOfInfo, esub, hlead, optIdent, relIdent, mkIdent, hv.indent_eq, hs'.indent_eq]
  rw [← eb, ← eh]
  simp [chars]

theorem join_lines {l1 l2 strs a b d} (h1 : Lines c l1 a b)
    (e : joinSep ['\n'] strs = render l2) (h2 : Lines c l2 b d) :
    ∃ ls, joinSep ['\n'] (render l1 :: strs) = render ls ∧ Lines c ls a d := by
  cases strs with
  | nil => exact ⟨l1 ++ l2, by simp [joinSep, ← e], h1.append h2⟩
  | cons s ss => exact ⟨l1 ++ ⟨[], []⟩ :: l2, by simp [joinSep, e], h1.append h2.blank⟩

theorem decls_good (o : Options) (ho : OptOK o) (fuel : Nat) : ∀ ts ds last st, decls c.g fuel ts = some (ds, last) → Al c st ts →
    ∃ n strs ls, TokAt c n .Eof ∧
      (ds.map relDecl).mapM (declText o c.g.all) = .ok strs ∧ joinSep ['\n'] strs = render ls ∧ Lines c ls st n := by
  induction fuel with
  | zero => exact fun _ _ _ _ hs => nomatch hs
  | succ fuel ih =>
    intro ts ds last st hs hal
    rcases ParseConform.decls_other _ _ _ _ _ hs with ⟨i, rfl, rfl, _⟩ | h
    · obtain ⟨rfl, t0, _⟩ := al_cons c hal
      exact ⟨i, [], [], t0, rfl, rfl, Lines.nil (Nat.le_of_lt t0.lt)⟩
    · obtain ⟨d, ds', last', r', b, l1, rfl, h5, a5, e1, h1⟩ : DStep c o fuel ds st := by
        rcases h with ⟨i, r, rfl⟩ | ⟨i, r, rfl⟩
        · exact typeDecl_step o hs hal
        · exact procDecl_step o ho hs hal
      obtain ⟨n, strs, l2, hn, em, ej, h2⟩ := ih r' ds' last' b h5 a5
      obtain ⟨ls, ejl, hl⟩ := join_lines h1 ej h2
      exact ⟨n, _, ls, hn, mapM_cons_ok e1 em, ejl, hl⟩

end Spl.FmtDecl
