/-
  Conformance of the parser model with the grammar specification (C04), concluded: declarations,
  the declaration loop, the program.

  Every declaration parser opens with `many0(comment)`, which returns `docOf` of the specification,
  so that the keyword parser behind it sits exactly on its token.  Loop exits are look-ahead facts
  evaluated on the generated table.  `DeclsPrefix g ts ds rest`: the token list `ts` starts with
  the global declarations `ds`, each derived by the specification, and goes on with `rest`, which
  may be anything (a damaged declaration, garbage, the end of the file).  On such a list the
  declaration loop returns exactly `ds` and continues as a loop started behind them; a whole
  derivation is the case `rest = [Eof]`.
-/
import SplVerif.Lemmas.ParseConformStmt

namespace Spl.ParseConform
open Spl Spl.Parse Spl.Grammar

variable (ctx : Ctx)

def prependRes {α} (xs : List α) : Res (List α) → Res (List α)
  | .ok s l => .ok s (xs ++ l)
  | r => r

theorem prependRes_nil {α} (r : Res (List α)) : prependRes [] r = r := by
  cases r <;> rfl

theorem prependRes_append {α} (xs ys : List α) (r : Res (List α)) :
    prependRes xs (prependRes ys r) = prependRes (xs ++ ys) r := by
  cases r <;> simp only [prependRes, List.append_assoc]

theorem many0_step {α} (p : P α) (f : Nat) (s s' : St) (a : α) (h : p s = .ok s' a) (hne : s'.pos ≠ s.pos) :
    many0 p (f + 1) s = prependRes [a] (many0 p f s') := by
  simp only [many0, h, beq_eq_false_iff_ne.mpr hne, Bool.false_eq_true, if_false]
  cases many0 p f s' <;> rfl

theorem docOf_eq (A : Array Token) (p i : Nat) (h : lead ⟨A⟩ i = p) : docOf ⟨A⟩ i = cmtTexts A p i := by
  simp only [docOf, h, Array.toList_extract, List.extract, cmtTexts]
  rfl

theorem tk_here (s : St) (t : Token) (k : Kind) (ht : ctx.toks[s.pos]? = some t) (hk : t.kind ≠ .Comment) :
    tk ctx k s = if t.ty.kind == k then .ok { s with pos := s.pos + 1 } t else .err false s :=
  tagK_next ctx s s.pos t k ⟨Nat.le_refl _, fun _ a b => absurd b (Nat.not_lt.mpr a), ⟨t, ht, hk⟩⟩ ht

/-- behind consumed doc comments the position is not `Fresh`, so `ident_ok` does not apply: the
    identifier's range starts at the identifier itself -/
theorem ident_here {s : St} {name : List Char} {t : Token} (ht : ctx.toks[s.pos]? = some t) (hty : t.ty = .Ident name)
    (href : s.refPos ≤ s.pos) :
    parseIdentifier ctx none s = .ok { s with pos := s.pos + 1 }
      { value := name, info := { range := ⟨s.pos - s.refPos, s.pos + 1 - s.refPos⟩ } } := by
  have he := (tk_here ctx { s with errBuf := [] } t .Ident ht (by rw [Token.kind, hty]; exact Kind.noConfusion)).trans
    (if_pos (by rw [hty]; rfl))
  have hi := info_ok (tk ctx .Ident) s _ t he href (Nat.le_succ_of_le href)
  simp only [parseIdentifier, affected, pmap, hi, hty, displayToken]

/-- the opening of every declaration parser: the doc comments are those the specification gives the
    declaration, and behind them a keyword parser sits exactly on the head token -/
theorem doc_head {s : St} {i : Nat} {ty : TokenType} {rest : Toks} (hat : At ctx s (⟨i, ty⟩ :: rest)) :
    ∃ t, ctx.toks[i]? = some t ∧ t.ty = ty ∧
      docComments ctx s = .ok { s with pos := i } (docOf (G ctx) i) ∧
      ∀ k, tk ctx k { s with pos := i } =
        if ty.kind == k then .ok { s with pos := i + 1 } t else .err false { s with pos := i } := by
  obtain ⟨hN, ⟨t, ht, hty⟩, _, hlead⟩ := hat.head
  obtain ⟨t', ht', hk⟩ := hN.tok
  cases Option.some.inj (ht.symm.trans ht')
  exact ⟨t, ht, hty, docOf_eq ctx.toks s.pos i hlead ▸ docComments_run ctx _ s i rfl hN,
    fun k => hty ▸ tk_here ctx { s with pos := i } t k ht hk⟩

section
variable {β : Type} {s : St} {i : Nat} {ty : TokenType} {r : Toks} {k : Kind}

/-- a declaration: doc comments, the keyword on the head token, a parser `p1` that ends behind token `i1`, and a
    rest `g` that passes the doc comments and the result of `p1` on -/
theorem Good.decl {α γ δ : Type} {p1 : P γ} {c : γ} {g : List (List Char) → γ → P δ} {b : List (List Char) → γ → δ}
    {f : δ × AstInfo → α} {a : α} {i1 j : Nat} {r1 rest : Toks} (hat : At ctx s (⟨i, ty⟩ :: r)) (hk : (ty.kind == k) = true)
    (h1 : Parses ctx p1 { s with errBuf := [], pos := i + 1 } c (i1 + 1) r1) (hi : i < i1)
    (tl : ∀ doc c, Parses ctx (g doc c) { s with errBuf := [], pos := i1 + 1 } (b doc c) (j + 1) rest)
    (ha : f (b (docOf (G ctx) i) c, { range := ⟨lead (G ctx) i - s.refPos, j + 1 - s.refPos⟩, errors := [] }) = a) :
    Good ctx s
      (Parse.pmap f (info (Parse.bind (docComments ctx) (fun doc => Parse.bind (tk ctx k) (fun _ => Parse.bind p1 (g doc))))) s)
      a (mkInfo (G ctx) i j).range ⟨i, j⟩ rest ∧ i < j := by
  obtain ⟨t, _, _, hdoc, he⟩ := doc_head ctx hat.clearErr
  have h2 := tl (docOf (G ctx) i) c
  have hij : i < j := Nat.lt_of_lt_of_le hi (Nat.le_of_succ_le_succ h2.le)
  exact ⟨Good.node hat ⟨by simp only [Parse.bind, hdoc, (he k).trans (if_pos hk), h1.eq, h2.eq],
    Nat.le_trans hat.head.1.le (Nat.le_succ_of_le (Nat.le_of_lt hij)), h2.at_⟩ (Nat.succ_le_succ (Nat.le_of_lt hij)) ha, hij⟩

theorem doc_tk_fail (hat : At ctx s (⟨i, ty⟩ :: r)) (k : Kind) (hne : ty.kind ≠ k) (f : List (List Char) → Token → P β) :
    IsErr (Parse.bind (docComments ctx) (fun doc => Parse.bind (tk ctx k) (f doc)) s) :=
  let ⟨_, _, _, hdoc, he⟩ := doc_head ctx hat
  ⟨false, { s with pos := i }, by simp only [Parse.bind, hdoc, (he k).trans (if_neg (fun h => hne (beq_iff_eq.mp h)))]⟩

end

theorem refType_ok {fs : Nat} {ts rest : Toks} {t : TypeExpr} {sp : Span} {s : St}
    (hs : typeExpr (G ctx) fs ts = some (t, sp, rest)) (hat : At ctx s ts) :
    Parses ctx (refTypeExpr ctx none) s (relRefType s.refPos (refAbs t)) (sp.last + 1) rest :=
  Good.ref hat (parseT := parseTypeExpr ctx (typeFuel ctx)) (v := fun b => relType b t)
    (typeExpr_conf ctx fs ts t sp rest hs (typeFuel ctx) _ hat.reref
      (by have := hat.length_le; show ts.length + 1 ≤ 2 * ctx.toks.size + 4; omega))

structure TypeDeclSpec (g : GCtx) (i : Nat) (r rest : Toks) (td : TypeDecl) (k : Nat) : Prop where
  ex : ∃ j nm ieq tyeq r2 t st tyk,
    r = ⟨j, .Ident nm⟩ :: ⟨ieq, tyeq⟩ :: r2 ∧ (tyeq.kind == Kind.Eq) = true ∧
    typeExpr g (2 * r2.length + 4) r2 = some (t, st, ⟨k, tyk⟩ :: rest) ∧ (tyk.kind == Kind.Semic) = true ∧
    td = { doc := docOf g i, name := some (mkIdent g j nm), typeExpr := some (refAbs t), info := mkInfo g i k }

def relTypeDecl (b : Nat) (t : TypeDecl) : TypeDecl :=
  { t with name := t.name.map (relIdent b), typeExpr := t.typeExpr.map (relRefType b), info := relInfo b t.info }

/-- the common shape of `TypeDeclaration::parse` and `VariableDeclaration::parse`: doc comments,
    keyword, name, separator, type, `;` -/
def kwDecl (kw : Kind) (sep : P Token) (msg : Msg) : P (List (List Char) × Option Identifier × Option (Ref TypeExpr)) :=
  Parse.bind (docComments ctx) (fun doc =>
    Parse.bind (tk ctx kw) (fun _ =>
    Parse.bind (Spl.Parse.expect none (parseIdentifier ctx) (.ExpectedToken (chars "identifier"))) (fun name =>
    Parse.bind (Spl.Parse.expect none (inc sep) msg) (fun _ =>
    Parse.bind (Spl.Parse.expect none (refTypeExpr ctx) (.ExpectedToken (chars "type expression"))) (fun te =>
    Parse.bind (Spl.Parse.expect none (inc (tk ctx .Semic)) .MissingTrailingSemic) (fun _ =>
      pure' (doc, name, te)))))))

/-- a declaration `kw name sep type ;` whose separator is the first alternative of `sep`: `f` builds the node -/
theorem kwDecl_ok {α : Type} (f : (List (List Char) × Option Identifier × Option (Ref TypeExpr)) × AstInfo → α)
    {s : St} {i j isep k : Nat} {nm : List Char} {ty tysep tyk : TokenType} {r2 rest : Toks} {t : TypeExpr} {st : Span}
    {ksep : Kind} {seps : List (P Token)} (msg : Msg)
    (hat : At ctx s (⟨i, ty⟩ :: ⟨j, .Ident nm⟩ :: ⟨isep, tysep⟩ :: r2)) (hsep : (tysep.kind == ksep) = true)
    (ht : typeExpr (G ctx) (2 * r2.length + 4) r2 = some (t, st, ⟨k, tyk⟩ :: rest)) (kk : (tyk.kind == Kind.Semic) = true) :
    Good ctx s (pmap f (info (kwDecl ctx ty.kind (altList (tk ctx ksep :: seps)) msg)) s)
      (f ((docOf (G ctx) i, some (relIdent s.refPos (mkIdent (G ctx) j nm)), some (relRefType s.refPos (refAbs t))),
        { range := ⟨lead (G ctx) i - s.refPos, k + 1 - s.refPos⟩, errors := [] }))
      (mkInfo (G ctx) i k).range ⟨i, k⟩ rest ∧ i < k := by
  have a0 := hat.clearErr.tail
  obtain ⟨_, _, h2⟩ := Parses.token a0.tail hsep
  have h2' : Parses ctx (altList (tk ctx ksep :: seps)) _ _ _ _ := ⟨altList_cons_ok _ _ _ _ _ h2.eq, h2.le, h2.at_⟩
  have h3 := refType_ok ctx ht h2.at_
  obtain ⟨_, h4⟩ := Parses.expect_token h3.at_ kk
  exact Good.decl ctx hat (beq_self_eq_true _) (ident_ok a0).expect a0.head.1.le
    (fun _ _ => (h2'.expect (parser := inc _)).bind (h3.expect.bind ((h4 _).ret _))) rfl

theorem typeDecl_conf {s : St} {i k : Nat} {r rest : Toks} {td : TypeDecl} (hsp : TypeDeclSpec (G ctx) i r rest td k)
    (hat : At ctx s (⟨i, .Type⟩ :: r)) :
    parseTypeDecl ctx none s = .ok { s with pos := k + 1 } (relTypeDecl s.refPos td) ∧
    (s.pos ≤ i ∧ i < k) ∧ At ctx { s with pos := k + 1 } rest := by
  obtain ⟨j, nm, ieq, tyeq, r2, t, st, tyk, rfl, keq, ht, kk, rfl⟩ := hsp.ex
  obtain ⟨⟨e, hN, _, _, hat'⟩, hik⟩ := kwDecl_ok ctx
    (fun p => ({ doc := p.1.1, name := p.1.2.1, typeExpr := p.1.2.2, info := p.2 } : TypeDecl)) (.ExpectedToken eqS) hat keq ht kk
  exact ⟨e, ⟨hN.le, hik⟩, hat'⟩

theorem identThen_head {s : St} {i i2 : Nat} {nm : List Char} {ty2 : TokenType} {rest : Toks}
    (h : At ctx s (⟨i, .Ident nm⟩ :: ⟨i2, ty2⟩ :: rest)) (ks : List Kind) :
    (ty2.kind ∈ ks → void (Parse.bind (parseIdentifier ctx none) (fun _ => altList (ks.map (tk ctx)))) s =
      .ok { s with pos := i2 + 1 } ()) ∧
    (ty2.kind ∉ ks → IsErr (void (Parse.bind (parseIdentifier ctx none) (fun _ => altList (ks.map (tk ctx)))) s)) := by
  have hid := ident_ok h
  obtain ⟨t, _, _, hin, hout⟩ := altTk_head ctx hid.at_ ks
  exact ⟨fun hk => by simp only [void, pmap, Parse.bind, hid.eq, hin hk],
    fun hk => let ⟨k, s', he⟩ := hout hk; ⟨k, s', by simp only [void, pmap, Parse.bind, hid.eq, he]⟩⟩

theorem identThen_err_head {s : St} {ts : Toks} (h : At ctx s ts) (ks : List Kind)
    (hne : ∀ i ty r, ts = ⟨i, ty⟩ :: r → ty.kind ≠ .Ident) :
    IsErr (void (Parse.bind (parseIdentifier ctx none) (fun _ => altList (ks.map (tk ctx)))) s) :=
  void_err _ _ (bind_err _ _ _ (ident_fail h hne))

/-- what can follow the variable declarations of a valid procedure: `}` or the start of a statement -/
inductive StmtStart : Toks → Prop where
  | tok (i : Nat) (ty : TokenType) (r : Toks) (h : ty.kind = .LCurly ∨ ty.kind = .RCurly ∨ ty.kind = .Semic ∨
      ty.kind = .If ∨ ty.kind = .While) : StmtStart (⟨i, ty⟩ :: r)
  | ident (i i2 : Nat) (nm : List Char) (ty2 : TokenType) (r : Toks)
      (h : ty2.kind = .Assign ∨ ty2.kind = .LParen ∨ ty2.kind = .LBracket) : StmtStart (⟨i, .Ident nm⟩ :: ⟨i2, ty2⟩ :: r)

theorem StmtStart.not_var {i : Nat} {ty : TokenType} {r : Toks} (hs : StmtStart (⟨i, ty⟩ :: r)) : ty.kind ∉ [Kind.Var] := by
  cases hs with
  | tok _ _ _ hk => rcases hk with e | e | e | e | e <;> rw [e] <;> decide
  | ident => exact fun h => nomatch h

theorem la_var_dec_ok {s : St} {ts : Toks} (h : At ctx s ts) (hs : StmtStart ts) :
    ∃ s', la ctx .var_dec s = .ok s' () := by
  have hvar : la ctx .var_dec s = altList ([Kind.Var].map (fun k => void (tk ctx k)) ++
      [lookAhead ctx 0 7 .stmt, void (Parse.bind (parseIdentifier ctx none)
        (fun _ => altList ([Kind.LBracket, .Eq, .Colon].map (tk ctx))))]) s := rfl
  have hstmt : lookAhead ctx 0 7 .stmt s = altList ([Kind.LCurly, .RCurly, .Semic, .If, .While].map (fun k => void (tk ctx k)) ++
      [void (Parse.bind (parseIdentifier ctx none) (fun _ => altList ([Kind.Assign, .LParen].map (tk ctx)))),
       lookAhead ctx 0 6 .global_dec]) s := rfl
  have hglob : lookAhead ctx 0 6 .global_dec s =
      altList ([Kind.Proc, .Type, .Eof].map (fun k => void (tk ctx k)) ++ []) s := rfl
  obtain ⟨i, ty, r, rfl⟩ : ∃ i ty r, ts = ⟨i, ty⟩ :: r := by cases hs <;> exact ⟨_, _, _, rfl⟩
  obtain ⟨t, _, _, _, _, htk⟩ := tk_head ctx h
  rw [hvar, (altList_voidtk ctx htk _ _).2 hs.not_var]
  cases hs with
  | tok i ty r hk =>
    have hm : ty.kind ∈ [Kind.LCurly, .RCurly, .Semic, .If, .While] := by
      simpa only [List.mem_cons, List.not_mem_nil, or_false] using hk
    exact ⟨_, altList_cons_ok _ _ _ _ _ (hstmt.trans ((altList_voidtk ctx htk _ _).1 hm))⟩
  | ident i i2 nm ty2 r hk =>
    have hid : ∀ ks : List Kind, Kind.Ident ∉ ks → (TokenType.Ident nm).kind ∉ ks := fun _ h => h
    by_cases h2 : ty2.kind ∈ [Kind.Assign, .LParen]
    · -- `x :=`, `x (`: the statement set accepts
      refine ⟨{ s with pos := i2 + 1 }, altList_cons_ok _ _ _ _ _ (hstmt.trans ?_)⟩
      rw [(altList_voidtk ctx htk _ _).2 (hid _ (by decide))]
      exact altList_cons_ok _ _ _ _ _ ((identThen_head ctx h _).1 h2)
    · -- `x [`: the statement set fails, the last item accepts
      have h3 : ty2.kind = .LBracket := by
        rcases hk with e | e | e
        · exact absurd (e ▸ List.mem_cons_self) h2
        · exact absurd (e ▸ List.mem_cons_of_mem _ List.mem_cons_self) h2
        · exact e
      have hst : IsErr (lookAhead ctx 0 7 .stmt s) := by
        rw [hstmt, (altList_voidtk ctx htk _ _).2 (hid _ (by decide)),
          altList_cons_err _ _ _ (List.cons_ne_nil _ _) ((identThen_head ctx h _).2 h2)]
        exact ⟨false, s, hglob.trans ((altList_voidtk ctx htk _ _).2 (hid _ (by decide)))⟩
      rw [altList_cons_err _ _ _ (List.cons_ne_nil _ _) hst]
      exact ⟨_, (identThen_head ctx h _).1 (h3 ▸ List.mem_cons_self)⟩

theorem varDecls_var_flat (g : GCtx) (fv i : Nat) (r rest : Toks) (vs : List (Ref VarDecl))
    (h : varDecls g (fv + 1) (⟨i, .Var⟩ :: r) = some (vs, rest)) :
    ∃ j nm icol tycol r2 t st k tyk r4 vs',
      r = ⟨j, .Ident nm⟩ :: ⟨icol, tycol⟩ :: r2 ∧ (tycol.kind == Kind.Colon) = true ∧
      typeExpr g (2 * r2.length + 4) r2 = some (t, st, ⟨k, tyk⟩ :: r4) ∧ (tyk.kind == Kind.Semic) = true ∧
      varDecls g fv r4 = some (vs', rest) ∧
      vs = refAbs (.valid (docOf g i) (some (mkIdent g j nm)) (some (refAbs t)) (mkInfo g i k)) :: vs' := by
  simp only [Grammar.varDecls] at h
  split at h
  · cases h
  · rename_i j nm r1 h1
    cases identTok_some _ _ _ _ h1
    split at h
    · cases h
    · rename_i x2 r2 h2
      obtain ⟨ty2, rfl, k2⟩ := expectK_some _ _ _ _ h2
      split at h
      · cases h
      · rename_i t st r3 h3
        split at h
        · cases h
        · rename_i k r4 h4
          obtain ⟨ty4, rfl, k4⟩ := expectK_some _ _ _ _ h4
          split at h
          · cases h
          · rename_i vs' r5 h5
            cases h
            exact ⟨j, nm, x2, ty2, r2, t, st, k, ty4, r4, vs', rfl, k2, h3, k4, h5, rfl⟩

theorem varDecls_other (g : GCtx) (fv : Nat) (ts : Toks) (h : ∀ i r, ts ≠ ⟨i, .Var⟩ :: r) :
    varDecls g (fv + 1) ts = some ([], ts) := by
  unfold varDecls
  split
  · exact absurd rfl (h _ _)
  · rfl

/-- the implementation's form of a variable declaration under the reference that starts at `b` -/
def relVarDeclVal (b : Nat) : VarDecl → VarDecl
  | .valid d n t i => .valid d (n.map (relIdent b)) (t.map (relRefType b)) (relInfo b i)
  | .error i => .error (relInfo b i)

theorem relVarDecl_eq (base : Nat) (r : Ref VarDecl) :
    relVarDecl base r = ⟨relVarDeclVal r.val.info.range.lo r.val, r.val.info.range.lo - base⟩ := by
  obtain ⟨v, o⟩ := r
  cases v <;> rfl

theorem varDecl_conf {s : St} {i j icol k : Nat} {nm : List Char} {tycol tyk : TokenType} {r2 rest : Toks}
    {t : TypeExpr} {st : Span}
    (hat : At ctx s (⟨i, .Var⟩ :: ⟨j, .Ident nm⟩ :: ⟨icol, tycol⟩ :: r2)) (kcol : (tycol.kind == Kind.Colon) = true)
    (ht : typeExpr (G ctx) (2 * r2.length + 4) r2 = some (t, st, ⟨k, tyk⟩ :: rest)) (kk : (tyk.kind == Kind.Semic) = true) :
    parseVarDecl ctx none s = .ok { s with pos := k + 1 }
      (relVarDeclVal s.refPos (.valid (docOf (G ctx) i) (some (mkIdent (G ctx) j nm)) (some (refAbs t)) (mkInfo (G ctx) i k))) ∧
    (s.pos ≤ i ∧ i < k) ∧ lead (G ctx) i = s.pos ∧ At ctx { s with pos := k + 1 } rest := by
  obtain ⟨hg, hik⟩ := kwDecl_ok ctx (fun p => VarDecl.valid p.1.1 p.1.2.1 p.1.2.2 p.2) (.ExpectedToken colonS) hat kcol ht kk
  obtain ⟨e, hN, _, _, hat'⟩ := Good.alt2_left (q := pmap (fun (p : List Token × AstInfo) =>
      VarDecl.error { p.2 with errors := p.2.errors ++ [⟨p.2.range, .ExpectedToken (chars "variable declaration")⟩] })
    (info (ignoreUntil1 ctx (peek (la ctx .var_dec)) (loopFuel ctx)))) hg
  exact ⟨e, ⟨hN.le, hik⟩, hat.head.2.2.2, hat'⟩

theorem varDecl_fail {s : St} {ts : Toks} (hat : At ctx s ts) (hs : StmtStart ts) : IsErr (parseVarDecl ctx none s) := by
  obtain ⟨i, ty, r, rfl⟩ : ∃ i ty r, ts = ⟨i, ty⟩ :: r := by cases hs <;> exact ⟨_, _, _, rfl⟩
  -- the error alternative: its look-ahead accepts at once
  obtain ⟨s', hla⟩ := la_var_dec_ok ctx hat.clearErr hs
  show IsErr (altList [_, _] s)
  exact .cons (pmap_err _ _ _ (info_err (varDeclInner ctx none none) _
      (doc_tk_fail ctx hat.clearErr .Var (fun e => hs.not_var (e ▸ List.mem_cons_self)) _) hat.ref))
    (.cons (pmap_err _ _ _ (info_err _ _ ⟨false, { s with errBuf := [] }, by simp only [ignoreUntil1, peek_ok _ _ _ _ hla]⟩ hat.ref))
      .nil)

theorem varDecls_conf : ∀ (fv : Nat) (ts : Toks) (vs : List (Ref VarDecl)) (rest : Toks),
    varDecls (G ctx) fv ts = some (vs, rest) → StmtStart rest →
    ∀ (lf : Nat) (s : St), At ctx s ts → ts.length < lf →
    ∃ j, Parses ctx (many0 (refParse (parseVarDecl ctx) none) lf) s (vs.map (relVarDecl s.refPos)) j rest := by
  intro fv
  induction fv with
  | zero => intro ts vs rest hs; cases hs
  | succ fv ih =>
    intro ts vs rest hs hst lf s hat hlf
    obtain ⟨lf, rfl⟩ : ∃ f, lf = f + 1 := ⟨lf - 1, by omega⟩
    by_cases hv : ∃ i r, ts = ⟨i, .Var⟩ :: r
    · obtain ⟨i, r, rfl⟩ := hv
      obtain ⟨j, nm, icol, tycol, r2, t, st, k, tyk, r4, vs', rfl, kcol, ht, kk, hrec, rfl⟩ := varDecls_var_flat _ _ _ _ _ _ hs
      obtain ⟨e1, hp1, hlead, hat1⟩ := varDecl_conf ctx hat.reref kcol ht kk
      have hik : s.pos ≤ i ∧ i < k := hp1
      have hat1' : At ctx { s with pos := k + 1 } r4 := hat1.congr ctx rfl (by have := hat.ref; show s.refPos ≤ k + 1; omega)
      have hlen := At.cons_length ctx hat hat1' (by show i + 1 ≤ k + 1; omega) hat.head.2.2.1
      obtain ⟨p, g⟩ := ih r4 vs' rest hrec hst lf _ hat1' (by simp only [List.length_cons] at hlf hlen ⊢; omega)
      refine ⟨p, many0_cons (refParse_ok _ s _ _ e1 hat.ref) (by show k + 1 ≠ s.pos; omega) g.eq ▸ ?_,
        by have : k + 1 ≤ p := g.le; omega, g.at_⟩
      simp only [List.map_cons, relVarDecl_eq, refAbs, VarDecl.info, mkInfo, hlead]
    · rw [varDecls_other _ _ _ (fun i r e => hv ⟨i, r, e⟩)] at hs
      cases hs
      exact ⟨s.pos, many0_nil (refParse_err _ s (varDecl_fail ctx hat.reref hst) hat.ref), Nat.le_refl _, hat⟩

theorem param_flat (g : GCtx) (ts r2 : Toks) (p : ParamDecl) (h : param g ts = some (p, r2)) :
    (∃ f i nm icol tycol r1 t st, ts = ⟨f, .Ref⟩ :: ⟨i, .Ident nm⟩ :: ⟨icol, tycol⟩ :: r1 ∧
        (tycol.kind == Kind.Colon) = true ∧ typeExpr g (2 * r1.length + 4) r1 = some (t, st, r2) ∧
        p = .valid (docOf g f) true (some (mkIdent g i nm)) (some (refAbs t)) (mkInfo g f st.last)) ∨
    (∃ i nm icol tycol r1 t st, ts = ⟨i, .Ident nm⟩ :: ⟨icol, tycol⟩ :: r1 ∧
        (tycol.kind == Kind.Colon) = true ∧ typeExpr g (2 * r1.length + 4) r1 = some (t, st, r2) ∧
        p = .valid (docOf g i) false (some { value := nm, info := { range := ⟨i, i + 1⟩ } }) (some (refAbs t))
          (mkInfo g i st.last)) := by
  unfold param at h
  split at h
  rename_i isRef first ts1 hm
  split at h
  · cases h
  · rename_i i nm r0 h1
    cases identTok_some _ _ _ _ h1
    split at h
    · cases h
    · rename_i x2 r1 h2
      obtain ⟨ty2, rfl, k2⟩ := expectK_some _ _ _ _ h2
      split at h
      · cases h
      · rename_i t st r3 h3
        cases h
        split at hm
        · cases hm
          exact Or.inl ⟨_, i, nm, x2, ty2, r1, t, st, rfl, k2, h3, rfl⟩
        · cases hm
          exact Or.inr ⟨i, nm, x2, ty2, r1, t, st, rfl, k2, h3, rfl⟩
/-- the implementation's form of a parameter declaration under the reference that starts at `b` -/
def relParamVal (b : Nat) : ParamDecl → ParamDecl
  | .valid d rf n t i => .valid d rf (n.map (relIdent b)) (t.map (relRefType b)) (relInfo b i)
  | .error i => .error (relInfo b i)

theorem relParam_eq (base : Nat) (r : Ref ParamDecl) :
    relParam base r = ⟨relParamVal r.val.info.range.lo r.val, r.val.info.range.lo - base⟩ := by
  obtain ⟨v, o⟩ := r
  cases v <;> rfl

/-- `ParameterDeclaration::parse` behind the name: `: type`, then the look-ahead -/
theorem paramDecl_ok {s : St} {first i icol : Nat} {ty0 tycol : TokenType} {r0 r1 r2 : Toks} {t : TypeExpr} {st : Span}
    (isRef : Bool) (name : Identifier) (hat : At ctx s (⟨first, ty0⟩ :: r0))
    (hname : Parse.alt2
        (Parse.bind (tk ctx .Ref) (fun _ =>
          pmap (fun n => (true, n)) (Spl.Parse.expect none (parseIdentifier ctx) (.ExpectedToken (chars "identifier")))))
        (pmap (fun n => (false, some n)) (parseIdentifier ctx none)) { s with errBuf := [], pos := first } =
      .ok { s with errBuf := [], pos := i + 1 } (isRef, some (relIdent s.refPos name)))
    (hfi : first ≤ i) (hat2 : At ctx { s with errBuf := [], pos := i + 1 } (⟨icol, tycol⟩ :: r1))
    (kcol : (tycol.kind == Kind.Colon) = true) (ht : typeExpr (G ctx) (2 * r1.length + 4) r1 = some (t, st, r2))
    (hnext : CommaOrRParen r2) :
    ∃ j, parseParamDecl ctx none s = .ok { s with pos := j }
        (relParamVal s.refPos (.valid (docOf (G ctx) first) isRef (some name) (some (refAbs t)) (mkInfo (G ctx) first st.last))) ∧
      s.pos < j ∧ lead (G ctx) first = s.pos ∧ At ctx { s with pos := j } r2 := by
  obtain ⟨_, _, _, hdoc, _⟩ := doc_head ctx hat.clearErr
  obtain ⟨_, h2⟩ := Parses.expect_token hat2 kcol
  have h3 := refType_ok ctx ht hat2.tail
  obtain ⟨ix, tyx, rx, rfl, hkx⟩ := hnext
  have hla := (la_param_ok ctx h3.at_ hkx).1
  have hle : i + 1 ≤ st.last + 1 := Nat.le_trans (h2 (.ExpectedToken colonS)).le h3.le
  have inner : Parses ctx (paramDeclInner ctx none none) { s with errBuf := [] }
      (docOf (G ctx) first, (isRef, some (relIdent s.refPos name)), some (relRefType s.refPos (refAbs t))) (st.last + 1) _ :=
    ⟨by simp only [paramDeclInner, Parse.bind, hdoc, hname, (h2 (.ExpectedToken colonS)).eq, expect_ok _ _ _ _ _ h3.eq, hla, pure'],
      Nat.le_trans hat.head.1.le (Nat.le_trans hfi (Nat.le_of_succ_le hle)), h3.at_⟩
  obtain ⟨e, hN, _, _, hat'⟩ := Good.alt2_left (q := pmap (fun (p : List Token × AstInfo) =>
      ParamDecl.error { p.2 with errors := p.2.errors ++ [⟨p.2.range, .ExpectedToken (chars "parameter declaration")⟩] })
    (info (fun s => ignoreUntil0 ctx (peek (la ctx .param_dec)) (loopFuel ctx) s.pos s)))
    (Good.node hat inner (Nat.succ_le_succ (Nat.le_trans hfi (Nat.le_of_succ_le_succ hle)))
      (f := fun p => ParamDecl.valid p.1.1 p.1.2.1.1 p.1.2.1.2 p.1.2.2 p.2) rfl)
  exact ⟨st.last + 1, e, Nat.lt_succ_of_le (Nat.le_trans hN.le (Nat.le_trans hfi (Nat.le_of_succ_le_succ hle))),
    hat.head.2.2.2, hat'⟩

theorem param_conf {s : St} {ts r2 : Toks} {p : ParamDecl} (hs : param (G ctx) ts = some (p, r2)) (hat : At ctx s ts)
    (hnext : CommaOrRParen r2) :
    ∃ j, parseParamDecl ctx none s = .ok { s with pos := j } (relParamVal s.refPos p) ∧ s.pos < j ∧
      p.info.range.lo = s.pos ∧ At ctx { s with pos := j } r2 := by
  rcases param_flat _ _ _ _ hs with ⟨f, i, nm, icol, tycol, r1, t, st, rfl, kcol, ht, rfl⟩ |
      ⟨i, nm, icol, tycol, r1, t, st, rfl, kcol, ht, rfl⟩
  · -- `ref name : type`
    obtain ⟨_, _, _, _, he0⟩ := doc_head ctx hat.clearErr
    have hid := ident_ok hat.clearErr.tail
    exact paramDecl_ok ctx true (mkIdent (G ctx) i nm) hat
      (alt2_ok_left _ _ _ _ _ (by simp only [Parse.bind, (he0 .Ref).trans (if_pos rfl), pmap, expect_ok _ _ _ _ _ hid.eq]))
      (Nat.le_of_succ_le hat.clearErr.tail.head.1.le) hid.at_ kcol ht hnext
  · -- `name : type`: the name sits directly behind the doc comments
    obtain ⟨tok, htok, hty, _, he0⟩ := doc_head ctx hat.clearErr
    have hidh := ident_here ctx (s := { s with errBuf := [], pos := i }) htok hty (Nat.le_trans hat.ref hat.head.1.le)
    refine paramDecl_ok ctx false { value := nm, info := { range := ⟨i, i + 1⟩ } } hat ?_ (Nat.le_refl _) hat.clearErr.tail kcol ht hnext
    rw [alt2_err_left _ _ _ (bind_err _ _ _ ⟨false, _, (he0 .Ref).trans (if_neg (show ¬(Kind.Ident == Kind.Ref) = true by decide))⟩)]
    simp only [pmap, hidh]
    rfl

theorem params_sepList (g : GCtx) : SepList (param g) (params g) where
  zero _ := rfl
  succ fp ts := by
    cases he : param g ts with
    | none => simp only [Grammar.params, he]
    | some res =>
      obtain ⟨p, r⟩ := res
      simp only [Grammar.params, he]
      cases r with
      | nil => rfl
      | cons t r1 =>
        obtain ⟨ic, ty⟩ := t
        cases ty <;> first
          | rfl
          | (simp only [sepTail]; cases params g fp r1 <;> rfl)

theorem param_elem : ElemConf ctx (parseParamDecl ctx) (param (G ctx)) (fun p => relParamVal p.info.range.lo p)
    (fun p => p.info.range.lo) := by
  intro ts p r2 s hs hat hnext
  obtain ⟨j, g1, g2, g3, g4⟩ := param_conf ctx hs hat.reref hnext
  have g2' : s.pos < j := g2
  have g3' : p.info.range.lo = s.pos := g3
  exact ⟨j, ⟨g3' ▸ refParse_ok (parseParamDecl ctx) s _ _ g1 hat.ref, Nat.le_of_lt g2',
    g4.congr ctx rfl (by have := hat.ref; show s.refPos ≤ j; omega)⟩, g3', g2'⟩

theorem varAccess_second (g : GCtx) (f i : Nat) (nm : List Char) (r rest : Toks) (v : Var) (sv : Span)
    (h : varAccess g f (⟨i, .Ident nm⟩ :: r) = some (v, sv, rest)) :
    (∃ k r', r = ⟨k, .LBracket⟩ :: r') ∨ rest = r := by
  cases f with
  | zero => cases h
  | succ f' =>
    simp only [Grammar.varAccess, identTok] at h
    cases f' with
    | zero => cases h
    | succ f'' =>
      cases r with
      | nil =>
        simp only [Grammar.accesses, Option.some.injEq, Prod.mk.injEq] at h
        exact Or.inr h.2.2.symm
      | cons t r' =>
        obtain ⟨k, ty⟩ := t
        by_cases hty : ty = .LBracket
        · subst hty; exact Or.inl ⟨k, r', rfl⟩
        · rw [accesses_other _ _ _ _ _ _ _ hty] at h
          cases h
          exact Or.inr rfl

theorem stmts_start (g : GCtx) (f : Nat) (ts rest : Toks) (ss : StmtList)
    (h : Grammar.stmts g f ts = some (ss, rest)) : StmtStart ts := by
  cases f with
  | zero => cases h
  | succ f' =>
    by_cases hr : ∃ i r, ts = ⟨i, .RCurly⟩ :: r
    · obtain ⟨i, r, rfl⟩ := hr
      exact .tok _ _ _ (.inr (.inl rfl))
    · -- the first statement of the list
      obtain ⟨_, _, _, _, h1, _⟩ := stmts_cons_flat _ _ _ _ _ (fun i r e => hr ⟨i, r, e⟩) h
      match f', ts with
      | 0, _ => cases h1
      | _ + 1, [] => cases h1
      | f + 1, ⟨i, ty⟩ :: r =>
        rcases stmt_head h1 with rfl | rfl | rfl | rfl | ⟨nm, rfl⟩
        · exact .tok _ _ _ (.inr (.inr (.inl rfl)))
        · exact .tok _ _ _ (.inr (.inr (.inr (.inl rfl))))
        · exact .tok _ _ _ (.inr (.inr (.inr (.inr rfl))))
        · exact .tok _ _ _ (.inl rfl)
        · by_cases hc : ∃ k r', r = ⟨k, .LParen⟩ :: r'
          · obtain ⟨k, r', rfl⟩ := hc
            exact .ident _ _ _ _ _ (.inr (.inl rfl))
          · obtain ⟨v, sv, ias, tyas, r1, e, se, j, tyj, hv, kas, _⟩ :=
              stmt_assign_flat _ _ _ _ _ _ _ _ (fun k r' e => hc ⟨k, r', e⟩) h1
            rcases varAccess_second _ _ _ _ _ _ _ _ hv with ⟨k, r', rfl⟩ | rfl
            · exact .ident _ _ _ _ _ (.inr (.inr rfl))
            · exact .ident _ _ _ _ _ (.inl (beq_iff_eq.mp kas))

theorem decls_proc_flat (g : GCtx) (fd i : Nat) (r : Toks) (ds : List (Ref GlobalDecl)) (last : Option Nat)
    (h : decls g (fd + 1) (⟨i, .Proc⟩ :: r) = some (ds, last)) :
    ∃ j nm ilp tylp r2 ps irp tyrp ilc tylc r5 vs r6 ss k tyk r8 ds' last',
      r = ⟨j, .Ident nm⟩ :: ⟨ilp, tylp⟩ :: r2 ∧ (tylp.kind == Kind.LParen) = true ∧
      ((∃ x r', r2 = ⟨x, .RParen⟩ :: r' ∧ ps = [] ∧ r2 = ⟨irp, tyrp⟩ :: ⟨ilc, tylc⟩ :: r5) ∨
       ((∀ x r', r2 ≠ ⟨x, .RParen⟩ :: r') ∧ params g (r2.length + 1) r2 = some (ps, ⟨irp, tyrp⟩ :: ⟨ilc, tylc⟩ :: r5))) ∧
      (tyrp.kind == Kind.RParen) = true ∧ (tylc.kind == Kind.LCurly) = true ∧
      varDecls g (r5.length + 1) r5 = some (vs, r6) ∧
      Grammar.stmts g (2 * r6.length + 4) r6 = some (ss, ⟨k, tyk⟩ :: r8) ∧ (tyk.kind == Kind.RCurly) = true ∧
      decls g fd r8 = some (ds', last') ∧
      ds = refAbs (.proc { doc := docOf g i, name := some (mkIdent g j nm), params := ps, vars := vs,
                           stmts := ss.toList, info := mkInfo g i k }) :: ds' ∧
      last = some (last'.getD k) := by
  simp only [Grammar.decls] at h
  split at h
  · cases h
  · rename_i j nm r1 h1
    cases identTok_some _ _ _ _ h1
    split at h
    · cases h
    · rename_i x2 r2 h2
      obtain ⟨ty2, rfl, k2⟩ := expectK_some _ _ _ _ h2
      split at h
      · cases h
      · rename_i ps r3 h3
        split at h
        · cases h
        · rename_i x4 r4 h4
          obtain ⟨ty4, rfl, k4⟩ := expectK_some _ _ _ _ h4
          split at h
          · cases h
          · rename_i x5 r5 h5
            obtain ⟨ty5, rfl, k5⟩ := expectK_some _ _ _ _ h5
            split at h
            · cases h
            · rename_i vs r6 h6
              split at h
              · cases h
              · rename_i ss r7 h7
                split at h
                · cases h
                · rename_i k r8 h8
                  obtain ⟨ty8, rfl, k8⟩ := expectK_some _ _ _ _ h8
                  split at h
                  · cases h
                  · rename_i ds' last' h9
                    cases h
                    refine ⟨j, nm, x2, ty2, r2, ps, x4, ty4, x5, ty5, r5, vs, r6, ss, k, ty8, r8, ds', last',
                      rfl, k2, ?_, k4, k5, h6, h7, k8, h9, rfl, rfl⟩
                    split at h3
                    · cases h3
                      exact Or.inl ⟨_, _, rfl, rfl, rfl⟩
                    · rename_i hne
                      exact Or.inr ⟨hne, h3⟩

def relProcDecl (b : Nat) (p : ProcDecl) : ProcDecl :=
  { p with name := p.name.map (relIdent b), params := p.params.map (relParam b),
           vars := p.vars.map (relVarDecl b), stmts := p.stmts.map (relRefStmt b), info := relInfo b p.info }

theorem procDecl_conf {s : St} {i j ilp irp ilc k : Nat} {nm : List Char} {tylp tyrp tylc tyk : TokenType}
    {r2 r5 r6 r8 : Toks} {ps : List (Ref ParamDecl)} {vs : List (Ref VarDecl)} {ss : StmtList}
    (hat : At ctx s (⟨i, .Proc⟩ :: ⟨j, .Ident nm⟩ :: ⟨ilp, tylp⟩ :: r2)) (klp : (tylp.kind == Kind.LParen) = true)
    (hps : (∃ x r', r2 = ⟨x, .RParen⟩ :: r' ∧ ps = [] ∧ r2 = ⟨irp, tyrp⟩ :: ⟨ilc, tylc⟩ :: r5) ∨
       ((∀ x r', r2 ≠ ⟨x, .RParen⟩ :: r') ∧
         params (G ctx) (r2.length + 1) r2 = some (ps, ⟨irp, tyrp⟩ :: ⟨ilc, tylc⟩ :: r5)))
    (krp : (tyrp.kind == Kind.RParen) = true) (klc : (tylc.kind == Kind.LCurly) = true)
    (hvs : varDecls (G ctx) (r5.length + 1) r5 = some (vs, r6))
    (hss : Grammar.stmts (G ctx) (2 * r6.length + 4) r6 = some (ss, ⟨k, tyk⟩ :: r8)) (kk : (tyk.kind == Kind.RCurly) = true) :
    parseProcDecl ctx none s = .ok { s with pos := k + 1 }
      (relProcDecl s.refPos { doc := docOf (G ctx) i, name := some (mkIdent (G ctx) j nm), params := ps, vars := vs,
                               stmts := ss.toList, info := mkInfo (G ctx) i k }) ∧
    (s.pos ≤ i ∧ i < k) ∧ lead (G ctx) i = s.pos ∧ At ctx { s with pos := k + 1 } r8 ∧
    (∃ t, ctx.toks[k]? = some t ∧ t.ty = tyk) := by
  have a0 := hat.clearErr.tail
  have hI := ident_ok a0
  obtain ⟨_, h2⟩ := Parses.expect_token a0.tail klp
  obtain ⟨p, hP⟩ := optList_conf ctx (parseParamDecl ctx) (fun (p : ParamDecl) => p.info.range) (params_sepList (G ctx)) _ _
    (param_elem ctx) (x := .LCurly) (starts := [.Ref, .Ident]) (fun x ty r e r' he => by
      rcases param_flat _ _ _ _ he with ⟨_, _, _, _, _, _, _, _, e0, _⟩ | ⟨_, _, _, _, _, _, _, e0, _⟩ <;> cases e0
      · exact List.mem_cons_self
      · exact List.mem_cons_of_mem _ List.mem_cons_self) (by decide)
    hps ⟨irp, tyrp, _, rfl, beq_iff_eq.mp krp⟩ a0.tail.tail
  obtain ⟨_, h3⟩ := Parses.expect_token hP.at_ krp
  obtain ⟨_, h4⟩ := Parses.expect_token hP.at_.tail klc
  have hat5 := hP.at_.tail.tail
  obtain ⟨pv, hV⟩ := varDecls_conf ctx _ r5 vs r6 hvs (stmts_start _ _ _ _ _ hss) (loopFuel ctx) _ hat5 (loopFuel_gt ctx hat5)
  have hlen6 := hV.at_.length_le
  obtain ⟨pz, hS, _⟩ := (sconf_all ctx _).stmts r6 ss _ hss (stmtFuel ctx) (loopFuel ctx) _ hV.at_
    (by show 2 * r6.length + 2 ≤ 2 * ctx.toks.size + 16; omega) (loopFuel_gt ctx hV.at_)
  obtain ⟨_, h5⟩ := Parses.expect_token hS.at_ kk
  have key : Good ctx s (parseProcDecl ctx none s) _ _ ⟨i, k⟩ r8 ∧ i < k := Good.decl ctx hat rfl hI.expect a0.head.1.le
    (fun _ _ => (h2 _).bind (hP.bind ((h3 _).bind ((h4 _).bind (hV.many.bind (hS.many.bind ((h5 _).ret _))))))) rfl
  obtain ⟨⟨e, hN, _, _, hat'⟩, hik⟩ := key
  refine ⟨e.trans ?_, ⟨hN.le, hik⟩, hat.head.2.2.2, hat', hS.at_.head.2.1⟩
  simp only [relProcDecl, relInfo, mkInfo, Option.map_some, show relParam s.refPos = _ from funext (relParam_eq s.refPos)]
  rfl

theorem typeDecl_fail {s : St} {i : Nat} {ty : TokenType} {r : Toks} (hat : At ctx s (⟨i, ty⟩ :: r)) (hne : ty.kind ≠ .Type) :
    IsErr (parseTypeDecl ctx none s) :=
  pmap_err _ _ _ (info_err (typeDeclInner ctx none none) s (doc_tk_fail ctx hat.clearErr .Type hne _) hat.ref)

theorem globalDecl_fail_eof {s : St} {i : Nat} {r : Toks} (hat : At ctx s (⟨i, .Eof⟩ :: r)) :
    IsErr (parseGlobalDecl ctx none s) := by
  obtain ⟨t, _, _, _, _, htk⟩ := tk_head ctx hat.clearErr
  have hla : la ctx .global_dec { s with errBuf := [] } = .ok { s with errBuf := [], pos := i + 1 } () :=
    (altList_voidtk ctx htk [.Proc, .Type, .Eof] []).1 (by decide)
  exact .cons (pmap_err _ _ _ (typeDecl_fail ctx hat (by decide))) (.cons (pmap_err _ _ _ (pmap_err _ _ _ (info_err (procDeclInner ctx none) s
      (doc_tk_fail ctx hat.clearErr .Proc (by decide) _) hat.ref)))
    (.cons (pmap_err _ _ _ (info_err _ _ ⟨false, { s with errBuf := [] }, by simp only [ignoreUntil1, peek_ok _ _ _ _ hla]⟩ hat.ref))
      .nil))

theorem decls_type_flat (g : GCtx) (fd i : Nat) (r : Toks) (ds : List (Ref GlobalDecl)) (last : Option Nat)
    (h : decls g (fd + 1) (⟨i, .Type⟩ :: r) = some (ds, last)) :
    ∃ td k r4 ds' last', TypeDeclSpec g i r r4 td k ∧ decls g fd r4 = some (ds', last') ∧
      ds = refAbs (.type td) :: ds' ∧ last = some (last'.getD k) := by
  rw [Grammar.decls] at h
  split at h
  · cases h
  · rename_i j nm r1 h1
    cases identTok_some _ _ _ _ h1
    split at h
    · cases h
    · rename_i x2 r2 h2
      obtain ⟨ty2, rfl, k2⟩ := expectK_some _ _ _ _ h2
      split at h
      · cases h
      · rename_i t st r3 h3
        split at h
        · cases h
        · rename_i k r4 h4
          obtain ⟨ty4, rfl, k4⟩ := expectK_some _ _ _ _ h4
          split at h
          · cases h
          · rename_i ds' last' h5
            cases h
            exact ⟨_, k, r4, ds', last', ⟨⟨j, nm, x2, ty2, r2, t, st, ty4, rfl, k2, h3, k4, rfl⟩⟩, h5, rfl, rfl⟩

theorem decls_other (g : GCtx) (fd : Nat) (ts : Toks) (ds : List (Ref GlobalDecl)) (last : Option Nat)
    (h : decls g (fd + 1) ts = some (ds, last)) :
    (∃ i, ts = [⟨i, .Eof⟩] ∧ ds = [] ∧ last = none) ∨ (∃ i r, ts = ⟨i, .Type⟩ :: r) ∨ (∃ i r, ts = ⟨i, .Proc⟩ :: r) := by
  unfold Grammar.decls at h
  split at h
  · cases h; exact Or.inl ⟨_, rfl, rfl, rfl⟩
  · exact Or.inr (Or.inl ⟨_, _, rfl⟩)
  · exact Or.inr (Or.inr ⟨_, _, rfl⟩)
  · cases h

theorem relDecl_type (td : TypeDecl) :
    relDecl (refAbs (.type td)) = ⟨.type (relTypeDecl td.info.range.lo td), td.info.range.lo⟩ := rfl

theorem relDecl_proc (pd : ProcDecl) :
    relDecl (refAbs (.proc pd)) = ⟨.proc (relProcDecl pd.info.range.lo pd), pd.info.range.lo⟩ := rfl

theorem typeDeclSpec_info {g : GCtx} {i k : Nat} {r rest : Toks} {td : TypeDecl} (h : TypeDeclSpec g i r rest td k) :
    td.info = mkInfo g i k := by
  obtain ⟨j, nm, ieq, tyeq, r2, t, st, tyk, _, _, _, _, rfl⟩ := h.ex
  rfl

theorem typeDeclSpec_len {g : GCtx} {i k : Nat} {r rest : Toks} {td : TypeDecl} (h : TypeDeclSpec g i r rest td k) :
    ∃ j nm ieq tyeq r2, r = ⟨j, .Ident nm⟩ :: ⟨ieq, tyeq⟩ :: r2 := by
  obtain ⟨j, nm, ieq, tyeq, r2, t, st, tyk, e, _⟩ := h.ex
  exact ⟨j, nm, ieq, tyeq, r2, e⟩

/-- where the declarations end: behind the last token of the last declaration -/
def endPos (last : Option Nat) (d : Nat) : Nat :=
  match last with
  | some l => l + 1
  | none => d

theorem endPos_cons (last' : Option Nat) (k d : Nat) : endPos (some (last'.getD k)) d = endPos last' (k + 1) := by
  cases last' <;> rfl

inductive DeclsPrefix (g : GCtx) : Toks → List (Ref GlobalDecl) → Toks → Prop
  | nil (ts : Toks) : DeclsPrefix g ts [] ts
  | type (i k : Nat) (r r4 rest : Toks) (td : TypeDecl) (ds : List (Ref GlobalDecl)) :
      TypeDeclSpec g i r r4 td k → DeclsPrefix g r4 ds rest →
      DeclsPrefix g (⟨i, .Type⟩ :: r) (refAbs (.type td) :: ds) rest
  | proc (i j : Nat) (nm : List Char) (ilp : Nat) (tylp : TokenType) (r2 : Toks) (ps : List (Ref ParamDecl))
      (irp : Nat) (tyrp : TokenType) (ilc : Nat) (tylc : TokenType) (r5 : Toks) (vs : List (Ref VarDecl)) (r6 : Toks)
      (ss : StmtList) (k : Nat) (tyk : TokenType) (r8 rest : Toks) (ds : List (Ref GlobalDecl)) :
      (tylp.kind == Kind.LParen) = true →
      ((∃ x r', r2 = ⟨x, .RParen⟩ :: r' ∧ ps = [] ∧ r2 = ⟨irp, tyrp⟩ :: ⟨ilc, tylc⟩ :: r5) ∨
       ((∀ x r', r2 ≠ ⟨x, .RParen⟩ :: r') ∧ params g (r2.length + 1) r2 = some (ps, ⟨irp, tyrp⟩ :: ⟨ilc, tylc⟩ :: r5))) →
      (tyrp.kind == Kind.RParen) = true → (tylc.kind == Kind.LCurly) = true →
      varDecls g (r5.length + 1) r5 = some (vs, r6) →
      Grammar.stmts g (2 * r6.length + 4) r6 = some (ss, ⟨k, tyk⟩ :: r8) → (tyk.kind == Kind.RCurly) = true →
      DeclsPrefix g r8 ds rest →
      DeclsPrefix g (⟨i, .Proc⟩ :: ⟨j, .Ident nm⟩ :: ⟨ilp, tylp⟩ :: r2)
        (refAbs (.proc { doc := docOf g i, name := some (mkIdent g j nm), params := ps, vars := vs,
                         stmts := ss.toList, info := mkInfo g i k }) :: ds) rest

/-- where declarations with absolute ranges end, from `p` -/
def declsEnd (p : Nat) : List (Ref GlobalDecl) → Nat
  | [] => p
  | d :: ds => declsEnd d.val.info.range.hi ds

theorem decls_prefix (g : GCtx) : ∀ (fd : Nat) (ts : Toks) (ds : List (Ref GlobalDecl)) (last : Option Nat),
    decls g fd ts = some (ds, last) →
    ∃ ieof, DeclsPrefix g ts ds [⟨ieof, .Eof⟩] ∧ ∀ p, endPos last p = declsEnd p ds := by
  intro fd
  induction fd with
  | zero => intro ts ds last hs; cases hs
  | succ fd ih =>
    intro ts ds last hs
    rcases decls_other _ _ _ _ _ hs with ⟨i, rfl, rfl, rfl⟩ | ⟨i, r, rfl⟩ | ⟨i, r, rfl⟩
    · exact ⟨i, DeclsPrefix.nil _, fun _ => rfl⟩
    · obtain ⟨td, k, r4, ds', last', hsp, hrec, rfl, rfl⟩ := decls_type_flat _ _ _ _ _ _ hs
      obtain ⟨ie, h, hend⟩ := ih r4 ds' last' hrec
      refine ⟨ie, DeclsPrefix.type i k r r4 _ td ds' hsp h, fun p => ?_⟩
      rw [endPos_cons, hend]
      show _ = declsEnd td.info.range.hi ds'
      rw [typeDeclSpec_info hsp]
      rfl
    · obtain ⟨j, nm, ilp, tylp, r2, ps, irp, tyrp, ilc, tylc, r5, vs, r6, ss, k, tyk, r8, ds', last',
        rfl, klp, hps, krp, klc, hvs, hss, kk, hrec, rfl, rfl⟩ := decls_proc_flat _ _ _ _ _ _ hs
      obtain ⟨ie, h, hend⟩ := ih r8 ds' last' hrec
      exact ⟨ie, DeclsPrefix.proc i j nm ilp tylp r2 ps irp tyrp ilc tylc r5 vs r6 ss k tyk r8 _ ds' klp hps krp klc hvs hss kk h,
        fun p => (endPos_cons last' k p).trans (hend (k + 1))⟩

theorem decls_is_prefix (g : GCtx) : ∀ (fd : Nat) (ts : Toks) (ds : List (Ref GlobalDecl)) (last : Option Nat),
    decls g fd ts = some (ds, last) → ∃ ieof, DeclsPrefix g ts ds [⟨ieof, .Eof⟩] :=
  fun fd ts ds last hs => let ⟨ie, h, _⟩ := decls_prefix g fd ts ds last hs; ⟨ie, h⟩

/-- what the declaration loop, started in `s` in front of `ts`, does on the declarations `ds` -/
def LoopOn (ts : Toks) (ds : List (Ref GlobalDecl)) (rest : Toks) (s : St) (f : Nat) : Prop :=
  s.pos ≤ declsEnd s.pos ds ∧ At ctx { s with pos := declsEnd s.pos ds } rest ∧ ds.length + rest.length ≤ ts.length ∧
    many0 (refParse (parseGlobalDecl ctx) none) (f + ds.length) s =
      prependRes (ds.map relDecl) (many0 (refParse (parseGlobalDecl ctx) none) f { s with pos := declsEnd s.pos ds })

/-- one round: a declaration `d`, parsed under its own reference, whose offset in the program is `s.pos` -/
theorem loop_round {s : St} {i k f : Nat} {ty : TokenType} {r mid rest : Toks} {gd : GlobalDecl} {d : Ref GlobalDecl}
    {ds : List (Ref GlobalDecl)} (hat : At ctx s (⟨i, ty⟩ :: r)) (href : s.refPos = 0)
    (hg : parseGlobalDecl ctx none { s with refPos := s.pos } = .ok { s with refPos := s.pos, pos := k + 1 } gd)
    (hik : s.pos ≤ i ∧ i < k) (hat1 : At ctx { s with refPos := s.pos, pos := k + 1 } mid)
    (hd : relDecl d = ⟨gd, s.pos⟩) (hhi : d.val.info.range.hi = k + 1)
    (ih : ∀ s f, At ctx s mid → s.refPos = 0 → LoopOn ctx mid ds rest s f) : LoopOn ctx (⟨i, ty⟩ :: r) (d :: ds) rest s f := by
  have hat1' : At ctx { s with pos := k + 1 } mid := hat1.congr ctx rfl (by show s.refPos ≤ k + 1; omega)
  obtain ⟨a, b, c, e⟩ := ih _ f hat1' href
  have hlen := At.cons_length ctx hat hat1' (Nat.succ_le_succ (Nat.le_of_lt hik.2)) hat.head.2.2.1
  have hr := refParse_ok (parseGlobalDecl ctx) s gd _ hg hat.ref
  rw [show s.pos - s.refPos = s.pos by omega] at hr
  refine ⟨by show s.pos ≤ declsEnd _ ds; rw [hhi]; exact Nat.le_trans (by show s.pos ≤ k + 1; omega) a,
    by show At ctx { s with pos := declsEnd _ ds } rest; rw [hhi]; exact b, by simp only [List.length_cons] at hlen ⊢; omega, ?_⟩
  rw [show f + (d :: ds).length = f + ds.length + 1 from rfl, many0_step _ _ _ _ _ hr (by show k + 1 ≠ s.pos; omega), e,
    prependRes_append, List.map_cons, hd]
  show _ = prependRes _ (many0 _ f { s with pos := declsEnd _ ds })
  rw [hhi]
  rfl

/-- the loop on a derivable prefix, with the position where it arrives: behind the last declaration -/
theorem prefix_loop {ts rest : Toks} {ds : List (Ref GlobalDecl)} (h : DeclsPrefix (G ctx) ts ds rest) :
    ∀ (s : St) (f : Nat), At ctx s ts → s.refPos = 0 → LoopOn ctx ts ds rest s f := by
  induction h with
  | nil => exact fun s f hat _ => ⟨Nat.le_refl _, hat, Nat.le_of_eq (Nat.zero_add _), (prependRes_nil _).symm⟩
  | type i k r r4 _ td _ hsp _ ih =>
    intro s f hat href
    obtain ⟨e1, hp1, hat1⟩ := typeDecl_conf ctx hsp hat.reref
    have hinfo : td.info = ⟨⟨s.pos, k + 1⟩, []⟩ := by rw [typeDeclSpec_info hsp, mkInfo, hat.head.2.2.2]
    exact loop_round ctx (gd := .type (relTypeDecl s.pos td)) hat href (altList_cons_ok _ _ _ _ _ (by simp only [pmap, e1])) hp1 hat1
      (by rw [relDecl_type, hinfo]) (by show td.info.range.hi = _; rw [hinfo]) ih
  | proc i j nm ilp tylp r2 ps irp tyrp ilc tylc r5 vs r6 ss k tyk r8 _ _ klp hps krp klc hvs hss kk _ ih =>
    intro s f hat href
    obtain ⟨e1, hp1, hlead, hat1, _⟩ := procDecl_conf ctx hat.reref klp hps krp klc hvs hss kk
    exact loop_round ctx (gd := .proc (relProcDecl s.pos _)) hat href ((altList_cons_err _ _ _ (List.cons_ne_nil _ _)
      (pmap_err _ _ _ (typeDecl_fail ctx hat.reref (by decide)))).trans (altList_cons_ok _ _ _ _ _ (by simp only [pmap, e1]; rfl)))
      hp1 hat1 (by rw [relDecl_proc]; show (⟨.proc (relProcDecl (lead (G ctx) i) _), lead (G ctx) i⟩ : Ref GlobalDecl) = _; rw [hlead])
      rfl ih

/-- **The declaration loop on a token list that starts with derivable declarations**: it returns
    those declarations — sub-trees, ranges, offsets and doc comments as the grammar mandates — and
    continues behind them exactly as a loop started there.  (That these sub-trees carry no diagnostic
    is `Lemmas/ParseClean`.) -/
theorem prefix_conf {ts rest : Toks} {ds : List (Ref GlobalDecl)} (h : DeclsPrefix (G ctx) ts ds rest) :
    ∀ (s : St) (f : Nat), At ctx s ts → s.refPos = 0 →
    ∃ e, s.pos ≤ e ∧ At ctx { s with pos := e } rest ∧ ds.length + rest.length ≤ ts.length ∧
      many0 (refParse (parseGlobalDecl ctx) none) (f + ds.length) s =
        prependRes (ds.map relDecl) (many0 (refParse (parseGlobalDecl ctx) none) f { s with pos := e }) :=
  fun s f hat href => ⟨_, prefix_loop ctx h s f hat href⟩

theorem decls_conf : ∀ (fd : Nat) (ts : Toks) (ds : List (Ref GlobalDecl)) (last : Option Nat),
    decls (G ctx) fd ts = some (ds, last) →
    ∀ (lf : Nat) (s : St), At ctx s ts → s.refPos = 0 → ts.length < lf →
    ∃ ieof, many0 (refParse (parseGlobalDecl ctx) none) lf s =
        .ok { s with pos := endPos last s.pos } (ds.map relDecl) ∧
      s.pos ≤ endPos last s.pos ∧
      At ctx { s with pos := endPos last s.pos } [⟨ieof, .Eof⟩] := by
  intro fd ts ds last hs lf s hat href hlf
  obtain ⟨ieof, hpre, hend⟩ := decls_prefix (G ctx) fd ts ds last hs
  obtain ⟨a, b, c, e⟩ := prefix_loop ctx hpre s (lf - ds.length - 1 + 1) hat href
  rw [hend]
  refine ⟨ieof, ?_, a, b⟩
  -- at `Eof` the loop stops
  have hlf' : lf - ds.length - 1 + 1 + ds.length = lf := by simp only [List.length_cons, List.length_nil] at c; omega
  rw [hlf', many0_nil (refParse_err _ _ (globalDecl_fail_eof ctx (b.reref ctx)) b.ref)] at e
  rw [e, prependRes, List.append_nil]

/-- the last token of the array is not a comment (a lexer output ends with `Eof`) -/
def EndsWithToken (A : Array Token) : Prop := ∃ t, A[A.size - 1]? = some t ∧ t.kind ≠ .Comment

theorem program_conf {fd : Nat} {ds : List (Ref GlobalDecl)} {last : Option Nat}
    (hs : decls (G ctx) fd (tsFrom ctx.toks 0) = some (ds, last)) (hend : EndsWithToken ctx.toks) :
    ∃ s', parseProgram ctx none { pos := 0 } =
      .ok s' { decls := ds.map relDecl, info := { range := ⟨0, endPos last 0⟩ } } := by
  have hat : At ctx ({ pos := 0 } : St) (tsFrom ctx.toks 0) := ⟨Or.inl rfl, Nat.le_refl _, rfl⟩
  obtain ⟨ieof, g1, g2, g3⟩ := decls_conf ctx fd _ ds last hs (loopFuel ctx) { pos := 0 } hat rfl (loopFuel_gt ctx hat)
  have g1' := (many_none ctx (fun (g : GlobalDecl) => g.info.range) (parseGlobalDecl ctx) (loopFuel ctx) _).trans g1
  have hi := info_ok _ ({ pos := 0 } : St) _ _ g1' (Nat.le_refl _) (Nat.zero_le _)
  obtain ⟨teof, _, _, _, _, htk⟩ := tk_head ctx g3
  have heof := (htk .Eof).trans (if_pos rfl)
  -- behind `Eof` only comments could follow, and the last token is none
  have hsize : ieof + 1 = ctx.toks.size := by
    obtain ⟨t, ht, _⟩ := (g3.head).2.1
    have hlt := (Array.getElem?_eq_some_iff.mp ht).1
    obtain ⟨t, ht, hk⟩ := hend
    refine Classical.byContradiction fun hne => ?_
    obtain ⟨t', ht', hk'⟩ := tsFrom_nil ctx.toks g3.tail.toks (ctx.toks.size - 1) (by show ieof + 1 ≤ _; omega) (by omega)
    rw [ht] at ht'
    cases ht'
    exact hk hk'
  refine ⟨{ pos := ieof + 1 }, ?_⟩
  simp only [parseProgram, Option.map_none, pmap, Parse.bind, hi, allConsuming, heof, beq_iff_eq.mpr hsize, if_true, pure',
    Nat.sub_zero]

theorem tsFrom_zero (toks : List Token) :
    tsFrom toks.toArray 0 = (toks.zipIdx.filter (fun (t, _) => t.kind != .Comment)).map (fun (t, i) => ⟨i, t.ty⟩) := by
  simp [tsFrom]

theorem parseAbs_some {toks : List Token} {p : Program} (h : parseAbs toks = some p) :
    ∃ ds last, decls ⟨toks.toArray⟩ ((tsFrom toks.toArray 0).length + 1) (tsFrom toks.toArray 0) = some (ds, last) ∧
      p = { decls := ds, info := { range := ⟨0, endPos last 0⟩ } } := by
  simp only [parseAbs] at h
  split at h
  · cases h
  · rw [← tsFrom_zero] at h
    split at h
    · cases h
    · rename_i ds last hd
      cases h
      exact ⟨ds, last, hd, by cases last <;> rfl⟩

theorem parse_some {toks : List Token} {p : Program} (h : Grammar.parse toks = some p) :
    ∃ ds last, decls ⟨toks.toArray⟩ ((tsFrom toks.toArray 0).length + 1) (tsFrom toks.toArray 0) = some (ds, last) ∧
      p = relativize { decls := ds, info := { range := ⟨0, endPos last 0⟩ } } := by
  obtain ⟨pa, hpa, rfl⟩ := Option.map_eq_some_iff.mp h
  obtain ⟨ds, last, hd, rfl⟩ := parseAbs_some hpa
  exact ⟨ds, last, hd, rfl⟩

theorem parse_ok_iff {toks : List Token} {p : Program} :
    Parse.parse toks = .ok p ↔ ∃ s', parseProgram ⟨toks.toArray, ⟨0, 0, toks.length⟩⟩ none { pos := 0 } = .ok s' p := by
  show (match parseProgram ⟨toks.toArray, ⟨0, 0, toks.length⟩⟩ none { pos := 0 } with
    | .ok _ p => .ok p
    | .err _ _ => .error ⟨"expect:Parser cannot fail"⟩
    | .panic e => .error e : Except Panic Program) = .ok p ↔ _
  cases parseProgram ⟨toks.toArray, ⟨0, 0, toks.length⟩⟩ none { pos := 0 } with
  | ok s q => exact ⟨fun h => ⟨s, by cases h; rfl⟩, fun ⟨_, h⟩ => by cases h; rfl⟩
  | err k s => exact ⟨nofun, nofun⟩
  | panic e => exact ⟨nofun, nofun⟩

/-- The statement of `C04.parse_conforms`: `program_conf` through `parse_ok_iff`.  That `p` carries no
    diagnostic is not part of it; that is `parse_errors_nil` of `Lemmas/ParseClean`. -/
theorem parse_conforms (toks : List Token) (p : Program) (h : Grammar.parse toks = some p)
    (hend : EndsWithToken toks.toArray) : Parse.parse toks = .ok p := by
  obtain ⟨ds, last, hd, rfl⟩ := parse_some h
  exact parse_ok_iff.mpr (program_conf { toks := toks.toArray, change := ⟨0, 0, toks.length⟩ } hd hend)

end Spl.ParseConform
