/-
  Conformance of the parser model with the grammar specification (C04), expressions.

  The specification reads the non-comment tokens (`tsFrom`); the model's `tag_parser!` skips exactly the
  comment run in front of the next token, and `lead` of the specification is where that run starts, which
  is what makes the ranges agree.  Every decision of the expression parsers (alternatives, loop exits) is a
  decision on the next token, so the model follows the specification's derivation step by step: `Conf fs`
  states this for the eight mutually recursive functions of the specification at fuel `fs`, by induction
  on `fs`.  The trees agree up to the change of range convention (`relExpr`), the error buffer stays
  untouched, and the model's fuel suffices (`8 · remaining tokens + level`).

  A sequence of the model is followed with `Parses` (one rule per combinator), a node is concluded with `Good`
  (the specification's tree, range and span), alternatives in front of the right one fail on the head token.
-/
import SplVerif.Model.Parser
import SplVerif.Spec.Grammar

namespace Spl.ParseConform
open Spl Spl.Parse Spl.Grammar

/-- non-comment tokens from position `p` on, with their indices (what the specification reads) -/
def tsFrom (A : Array Token) (p : Nat) : Toks :=
  ((A.toList.zipIdx.drop p).filter (fun (t, _) => t.kind != .Comment)).map (fun (t, i) => ⟨i, t.ty⟩)

theorem tsFrom_unfold (A : Array Token) (p : Nat) :
    tsFrom A p = match A[p]? with
      | none => []
      | some t => if t.kind != .Comment then ⟨p, t.ty⟩ :: tsFrom A (p + 1) else tsFrom A (p + 1) := by
  unfold tsFrom
  cases h : A[p]? with
  | none =>
    rw [List.drop_eq_nil_of_le (by simpa using Array.getElem?_eq_none_iff.mp h)]
    rfl
  | some t =>
    obtain ⟨hp, ht⟩ := Array.getElem?_eq_some_iff.mp h
    rw [List.drop_eq_getElem_cons (by simpa using hp), List.getElem_zipIdx, Array.getElem_toList, ht, Nat.zero_add]
    by_cases hc : t.kind = .Comment <;> simp [hc]

theorem tsFrom_length_le (A : Array Token) (p : Nat) : (tsFrom A p).length ≤ A.size - p := by
  rw [tsFrom, List.length_map]
  exact Nat.le_trans (List.length_filter_le _ _) (by rw [List.length_drop, List.length_zipIdx, Array.length_toList]; exact Nat.le_refl _)

theorem tsFrom_length_mono (A : Array Token) {p q : Nat} (h : p ≤ q) : (tsFrom A q).length ≤ (tsFrom A p).length :=
  (((List.drop_sublist_drop_left _ h).filter _).map _).length_le

structure Next (A : Array Token) (p i : Nat) : Prop where
  le : p ≤ i
  cmts : ∀ q, p ≤ q → q < i → ∃ t, A[q]? = some t ∧ t.kind = .Comment
  tok : ∃ t, A[i]? = some t ∧ t.kind ≠ .Comment

theorem tsFrom_cases (A : Array Token) (n : Nat) : ∀ p, A.size - p ≤ n →
    (tsFrom A p = [] ∧ ∀ q, p ≤ q → q < A.size → ∃ t, A[q]? = some t ∧ t.kind = .Comment) ∨
    ∃ i t, Next A p i ∧ A[i]? = some t ∧ tsFrom A p = ⟨i, t.ty⟩ :: tsFrom A (i + 1) := by
  induction n with
  | zero => exact fun p hn => .inl ⟨by rw [tsFrom_unfold, Array.getElem?_eq_none_iff.mpr (by omega)], fun q h1 h2 => by omega⟩
  | succ n ih =>
    intro p hn
    have hu := tsFrom_unfold A p
    cases hp : A[p]? with
    | none =>
      rw [hp] at hu
      exact .inl ⟨hu, fun q h1 h2 => by have := Array.getElem?_eq_none_iff.mp hp; omega⟩
    | some t =>
      rw [hp] at hu
      by_cases hc : t.kind = .Comment
      · -- a run of comments from `p + 1` is one from `p`
        have ext : ∀ {j}, (∀ q, p + 1 ≤ q → q < j → ∃ t, A[q]? = some t ∧ t.kind = .Comment) →
            ∀ q, p ≤ q → q < j → ∃ t, A[q]? = some t ∧ t.kind = .Comment :=
          fun h q h1 h2 => if hq : q = p then hq ▸ ⟨t, hp, hc⟩ else h q (by omega) h2
        rw [hu.trans (if_neg (by rw [hc]; decide))]
        rcases ih (p + 1) (by omega) with ⟨e, hall⟩ | ⟨i, t', hN, ht', e⟩
        · exact .inl ⟨e, ext hall⟩
        · exact .inr ⟨i, t', ⟨Nat.le_of_succ_le hN.le, ext hN.cmts, hN.tok⟩, ht', e⟩
      · exact .inr ⟨p, t, ⟨Nat.le_refl _, fun q h1 h2 => by omega, t, hp, hc⟩, hp, hu.trans (if_pos (bne_iff_ne.mpr hc))⟩

theorem tsFrom_cons (A : Array Token) {p i : Nat} {ty : TokenType} {rest : Toks} (h : tsFrom A p = ⟨i, ty⟩ :: rest) :
    Next A p i ∧ (∃ t, A[i]? = some t ∧ t.ty = ty) ∧ rest = tsFrom A (i + 1) := by
  rcases tsFrom_cases A _ p (Nat.le_refl _) with ⟨e, _⟩ | ⟨_, t, hN, ht, e⟩
  · rw [e] at h; cases h
  · rw [e] at h; cases h; exact ⟨hN, ⟨t, ht, rfl⟩, rfl⟩

theorem tsFrom_nil (A : Array Token) {p : Nat} (h : tsFrom A p = []) :
    ∀ q, p ≤ q → q < A.size → ∃ t, A[q]? = some t ∧ t.kind = .Comment := by
  rcases tsFrom_cases A _ p (Nat.le_refl _) with ⟨_, hall⟩ | ⟨_, _, _, _, e⟩
  · exact hall
  · rw [e] at h; cases h

variable (ctx : Ctx)

theorem kind_comment (t : Token) (h : t.kind = .Comment) : ∃ c, t.ty = .Comment c := by
  obtain ⟨ty, _, _⟩ := t
  cases ty <;> first | exact ⟨_, rfl⟩ | cases h

theorem kind_not_comment (t : Token) (h : t.kind ≠ .Comment) : ∀ c, t.ty ≠ .Comment c :=
  fun c hc => h (by rw [Token.kind, hc]; rfl)

theorem kind_plain {ty p : TokenType} {k : Kind} (hp : k.plain = some p) (h : ty.kind = k) : ty = p := by
  subst h
  cases ty <;> first | exact Option.some.inj hp | cases hp

def IsErr {α} (r : Res α) : Prop := ∃ k s', r = .err k s'

theorem many0_nil {α} {p : P α} {fuel : Nat} {s : St} (h : IsErr (p s)) : many0 p (fuel + 1) s = .ok s [] := by
  obtain ⟨k, s', h⟩ := h
  simp only [many0, h]

theorem many0_cons {α} {p : P α} {fuel : Nat} {s s' s'' : St} {a : α} {as : List α} (h : p s = .ok s' a)
    (hne : s'.pos ≠ s.pos) (hrest : many0 p fuel s' = .ok s'' as) : many0 p (fuel + 1) s = .ok s'' (a :: as) := by
  simp only [many0, h, beq_eq_false_iff_ne.mpr hne, Bool.false_eq_true, if_false, hrest]

def cmtText (t : Token) : Option (List Char) :=
  match t.ty with
  | .Comment c => some c
  | _ => none

def cmtTexts (A : Array Token) (p i : Nat) : List (List Char) :=
  ((A.toList.drop p).take (i - p)).filterMap cmtText

theorem cmtTexts_step (A : Array Token) (p i : Nat) (t : Token) (c : List Char) (hp : p < i) (ht : A[p]? = some t)
    (hc : t.ty = .Comment c) : cmtTexts A p i = c :: cmtTexts A (p + 1) i := by
  obtain ⟨hsz, hel⟩ := Array.getElem?_eq_some_iff.mp ht
  obtain ⟨n, hn⟩ : ∃ n, i - p = n + 1 := ⟨i - p - 1, by omega⟩
  rw [cmtTexts, cmtTexts, hn, show i - (p + 1) = n by omega, List.drop_eq_getElem_cons (by simpa using hsz),
    List.take_succ_cons, List.filterMap_cons]
  simp [cmtText, hel, hc]

theorem many0_comment_skip : ∀ (n : Nat) (s : St) (j fuel : Nat), j - s.pos = n → n < fuel → s.pos ≤ j →
    (∀ q, s.pos ≤ q → q < j → ∃ t, ctx.toks[q]? = some t ∧ t.kind = .Comment) →
    (∀ t, ctx.toks[j]? = some t → t.kind ≠ .Comment) →
    many0 (comment ctx) fuel s = .ok { s with pos := j } (cmtTexts ctx.toks s.pos j)
  | 0, s, j, fuel, hn, hf, hle, _, hj => by
    obtain ⟨f, rfl⟩ : ∃ f, fuel = f + 1 := ⟨fuel - 1, by omega⟩
    obtain rfl : j = s.pos := by omega
    rw [cmtTexts, Nat.sub_self]
    refine many0_nil ⟨false, s, ?_⟩
    cases ht : ctx.toks[s.pos]? with
    | none => simp only [comment, take1, ht]
    | some t =>
      simp only [comment, take1, ht]
      split
      · next c hc => exact absurd hc (kind_not_comment t (hj t ht) c)
      · rfl
  | n + 1, s, j, fuel, hn, hf, hle, hc, hj => by
    obtain ⟨f, rfl⟩ : ∃ f, fuel = f + 1 := ⟨fuel - 1, by omega⟩
    obtain ⟨t, ht, hk⟩ := hc s.pos (Nat.le_refl _) (by omega)
    obtain ⟨c, hty⟩ := kind_comment t hk
    rw [cmtTexts_step ctx.toks s.pos j t c (by omega) ht hty]
    exact many0_cons (by simp only [comment, take1, ht, hty]) (Nat.succ_ne_self _)
      (many0_comment_skip n { s with pos := s.pos + 1 } j f (by show j - (s.pos + 1) = n; omega) (by omega)
        (by show s.pos + 1 ≤ j; omega) (fun q a b => hc q (by have : s.pos + 1 ≤ q := a; omega) b) hj)

theorem many0_comment_next (s : St) (i fuel : Nat) (hf : i - s.pos < fuel) (hN : Next ctx.toks s.pos i) :
    many0 (comment ctx) fuel s = .ok { s with pos := i } (cmtTexts ctx.toks s.pos i) :=
  many0_comment_skip ctx _ s i fuel rfl hf hN.le hN.cmts (fun _ ht =>
    let ⟨_, ht', hk⟩ := hN.tok; Option.some.inj (ht.symm.trans ht') ▸ hk)

theorem many0_comment_run : ∀ (n : Nat) (s : St) (i : Nat) (fuel : Nat), i - s.pos = n → i - s.pos < fuel →
    Next ctx.toks s.pos i →
    ∃ cs, many0 (comment ctx) fuel s = .ok { s with pos := i } cs
  | _, s, i, fuel, _, hf, hN => ⟨_, many0_comment_next ctx s i fuel hf hN⟩

theorem loopFuel_next {s : St} {i : Nat} (hN : Next ctx.toks s.pos i) : i - s.pos < loopFuel ctx := by
  obtain ⟨t, ht, _⟩ := hN.tok
  have := (Array.getElem?_eq_some_iff.mp ht).1
  show _ < ctx.toks.size + 2
  omega

theorem docComments_run : ∀ (n : Nat) (s : St) (i : Nat), i - s.pos = n → Next ctx.toks s.pos i →
    docComments ctx s = .ok { s with pos := i } (cmtTexts ctx.toks s.pos i) :=
  fun _ s i _ hN => many0_comment_next ctx s i _ (loopFuel_next ctx hN) hN

/-- `tag_parser!`: skips the comment run; succeeds on the next token iff its kind matches, and
    fails on the ORIGINAL input otherwise -/
theorem tagK_next (s : St) (i : Nat) (t : Token) (k : Kind) (hN : Next ctx.toks s.pos i)
    (ht : ctx.toks[i]? = some t) :
    tagK ctx (loopFuel ctx) k s =
      if t.ty.kind == k then .ok { s with pos := i + 1 } t else .err false s := by
  simp only [tagK, tag, many0_comment_next ctx s i _ (loopFuel_next ctx hN) hN, take1, ht]

theorem tagK_end (s : St) (h : tsFrom ctx.toks s.pos = []) (k : Kind) : IsErr (tagK ctx (loopFuel ctx) k s) := by
  have hm := many0_comment_skip ctx _ s (max s.pos ctx.toks.size) (loopFuel ctx) rfl (by simp only [loopFuel]; omega)
    (by omega) (fun q a b => tsFrom_nil ctx.toks h q a (by omega))
    (fun t ht => by have := (Array.getElem?_eq_some_iff.mp ht).1; omega)
  have : ctx.toks[max s.pos ctx.toks.size]? = none := Array.getElem?_eq_none_iff.mpr (by omega)
  exact ⟨false, { s with pos := max s.pos ctx.toks.size }, by simp only [tagK, tag, hm, take1, this]⟩

def Fresh (A : Array Token) (p : Nat) : Prop := p = 0 ∨ ∃ t, A[p - 1]? = some t ∧ t.kind ≠ .Comment

theorem leadStart_run (A : Array Token) : ∀ (n i p fuel : Nat), i - p = n → n < fuel → p ≤ i → Fresh A p →
    (∀ q, p ≤ q → q < i → ∃ t, A[q]? = some t ∧ t.kind = .Comment) →
    leadStart ⟨A⟩ fuel i = p
  | 0, i, p, fuel, hn, hf, hle, hfr, hc => by
    obtain rfl : i = p := by omega
    obtain ⟨f, rfl⟩ : ∃ f, fuel = f + 1 := ⟨fuel - 1, by omega⟩
    rcases hfr with rfl | ⟨t, ht, hk⟩
    · rfl
    · cases i with
      | zero => rfl
      | succ i =>
        rw [Nat.add_sub_cancel] at ht
        simp only [leadStart, Nat.add_sub_cancel, ht, beq_eq_false_iff_ne.mpr hk, Nat.succ_ne_zero, beq_iff_eq,
          Bool.false_eq_true, if_false]
  | n + 1, i, p, fuel, hn, hf, hle, hfr, hc => by
    obtain ⟨f, rfl⟩ : ∃ f, fuel = f + 1 := ⟨fuel - 1, by omega⟩
    obtain ⟨i, rfl⟩ : ∃ j, i = j + 1 := ⟨i - 1, by omega⟩
    obtain ⟨t, ht, hk⟩ := hc i (by omega) (Nat.lt_succ_self _)
    simp only [leadStart, Nat.add_sub_cancel, ht, hk, beq_self_eq_true, Nat.succ_ne_zero, beq_iff_eq, if_true, if_false]
    exact leadStart_run A n i p f (by omega) (by omega) (by omega) hfr (fun q a b => hc q a (Nat.lt_succ_of_lt b))

theorem lead_next (A : Array Token) (p i : Nat) (hfr : Fresh A p) (hN : Next A p i) : lead ⟨A⟩ i = p := by
  unfold lead
  exact leadStart_run A (i - p) i p (i + 1) rfl (by omega) hN.le hfr hN.cmts

theorem fresh_after (A : Array Token) (i : Nat) (t : Token) (ht : A[i]? = some t) (hk : t.kind ≠ .Comment) :
    Fresh A (i + 1) := Or.inr ⟨t, by simpa using ht, hk⟩

/-- entry conditions of a parser: directly behind a token, inside the current reference, reading `ts` -/
structure At (s : St) (ts : Toks) : Prop where
  fresh : Fresh ctx.toks s.pos
  ref : s.refPos ≤ s.pos
  toks : tsFrom ctx.toks s.pos = ts

theorem At.head {s : St} {i : Nat} {ty : TokenType} {rest : Toks} (h : At ctx s (⟨i, ty⟩ :: rest)) :
    Next ctx.toks s.pos i ∧ (∃ t, ctx.toks[i]? = some t ∧ t.ty = ty) ∧ rest = tsFrom ctx.toks (i + 1) ∧
    lead ⟨ctx.toks⟩ i = s.pos :=
  let ⟨a, b, c⟩ := tsFrom_cons ctx.toks h.toks
  ⟨a, b, c, lead_next ctx.toks s.pos i h.fresh a⟩

theorem tk_head {s : St} {i : Nat} {ty : TokenType} {rest : Toks} (h : At ctx s (⟨i, ty⟩ :: rest)) :
    ∃ t, ctx.toks[i]? = some t ∧ t.ty = ty ∧ ty.kind ≠ .Comment ∧ At ctx { s with pos := i + 1 } rest ∧
      ∀ k, tk ctx k s = if ty.kind == k then .ok { s with pos := i + 1 } t else .err false s := by
  obtain ⟨hN, ⟨t, ht, hty⟩, hr, _⟩ := h.head
  obtain ⟨t', ht', hk⟩ := hN.tok
  cases Option.some.inj (ht.symm.trans ht')
  exact ⟨t, ht, hty, hty ▸ hk, ⟨fresh_after ctx.toks i t ht hk, Nat.le_trans h.ref (Nat.le_succ_of_le hN.le), hr.symm⟩,
    fun k => hty ▸ tagK_next ctx s i t k hN ht⟩

theorem tagK_head {s : St} {i : Nat} {ty : TokenType} {rest : Toks} (h : At ctx s (⟨i, ty⟩ :: rest)) (k : Kind) :
    ∃ t, ctx.toks[i]? = some t ∧ t.ty = ty ∧
      tagK ctx (loopFuel ctx) k s = (if ty.kind == k then .ok { s with pos := i + 1 } t else .err false s) ∧
      (ty.kind ≠ .Comment) ∧ At ctx { s with pos := i + 1 } rest :=
  let ⟨t, ht, hty, hk, hat, he⟩ := tk_head ctx h
  ⟨t, ht, hty, he k, hk, hat⟩

theorem tagK_fail {s : St} {ts : Toks} (h : At ctx s ts) (k : Kind)
    (hne : ∀ i ty r, ts = ⟨i, ty⟩ :: r → ty.kind ≠ k) : IsErr (tagK ctx (loopFuel ctx) k s) := by
  cases ts with
  | nil => exact tagK_end ctx s h.toks k
  | cons t r =>
    obtain ⟨_, _, _, _, _, he⟩ := tk_head ctx h
    exact ⟨false, s, (he k).trans (if_neg (fun hk => hne _ _ r rfl (beq_iff_eq.mp hk)))⟩

theorem At.tail {s : St} {i : Nat} {ty : TokenType} {rest : Toks} (h : At ctx s (⟨i, ty⟩ :: rest)) :
    At ctx { s with pos := i + 1 } rest :=
  let ⟨_, _, _, _, hat, _⟩ := tk_head ctx h
  hat

theorem At.congr {s s' : St} {ts : Toks} (h : At ctx s ts) (hp : s'.pos = s.pos) (hr : s'.refPos ≤ s'.pos) : At ctx s' ts :=
  ⟨hp ▸ h.fresh, hr, hp ▸ h.toks⟩

theorem At.clearErr {s : St} {ts : Toks} (h : At ctx s ts) : At ctx { s with errBuf := [] } ts :=
  ⟨h.fresh, h.ref, h.toks⟩

theorem At.reref {s : St} {ts : Toks} (h : At ctx s ts) : At ctx { s with refPos := s.pos } ts :=
  ⟨h.fresh, Nat.le_refl _, h.toks⟩

theorem At.length_le {s : St} {ts : Toks} (h : At ctx s ts) : ts.length ≤ ctx.toks.size - s.pos :=
  h.toks ▸ tsFrom_length_le _ _

theorem At.length_mono {s s' : St} {ts ts' : Toks} (h : At ctx s ts) (h' : At ctx s' ts') (hle : s.pos ≤ s'.pos) :
    ts'.length ≤ ts.length :=
  h.toks ▸ h'.toks ▸ tsFrom_length_mono _ hle

theorem loopFuel_gt {s : St} {ts : Toks} (h : At ctx s ts) : ts.length < loopFuel ctx := by
  have := h.length_le ctx
  simp only [loopFuel]; omega

theorem head_ne {i : Nat} {ty : TokenType} {r : Toks} {k : Kind} (h : ty.kind ≠ k) :
    ∀ i' ty' r', (⟨i, ty⟩ :: r : Toks) = ⟨i', ty'⟩ :: r' → ty'.kind ≠ k := by
  intro _ _ _ e; cases e; exact h

theorem st_eta (s : St) (j : Nat) (h : s.pos = j) : ({ s with pos := j } : St) = s := by
  subst h; rfl

theorem info_ok {α} (p : P α) (s s' : St) (a : α) (hp : p { s with errBuf := [] } = .ok s' a)
    (h1 : s.refPos ≤ s.pos) (h2 : s.refPos ≤ s'.pos) :
    info p s = .ok { s' with errBuf := s.errBuf }
      (a, { range := ⟨s.pos - s.refPos, s'.pos - s.refPos⟩, errors := s'.errBuf }) := by
  simp only [info, Nat.not_lt.mpr h1, if_false, hp, Nat.not_lt.mpr h2]

theorem info_err {α} (p : P α) (s : St) (hp : IsErr (p { s with errBuf := [] })) (h1 : s.refPos ≤ s.pos) :
    IsErr (info p s) := by
  obtain ⟨k, s', hp⟩ := hp
  exact ⟨k, { s' with errBuf := s.errBuf }, by simp only [info, Nat.not_lt.mpr h1, if_false, hp]⟩

theorem pmap_err {α β} (f : α → β) (p : P α) (s : St) (h : IsErr (p s)) : IsErr (pmap f p s) := by
  obtain ⟨k, s', h⟩ := h
  exact ⟨k, s', by simp only [pmap, h]⟩

theorem bind_err {α β} (p : P α) (f : α → P β) (s : St) (h : IsErr (p s)) : IsErr (Parse.bind p f s) := by
  obtain ⟨k, s', h⟩ := h
  exact ⟨k, s', by simp only [Parse.bind, h]⟩

theorem alt2_err_left {α} (p q : P α) (s : St) (h : IsErr (p s)) : alt2 p q s = q s := by
  obtain ⟨k, s', h⟩ := h
  simp only [alt2, h]

theorem alt2_ok_left {α} (p q : P α) (s s' : St) (a : α) (h : p s = .ok s' a) : alt2 p q s = .ok s' a := by
  simp only [alt2, h]

theorem altList_cons_err {α} (p : P α) (ps : List (P α)) (s : St) (hne : ps ≠ []) (h : IsErr (p s)) :
    altList (p :: ps) s = altList ps s := by
  cases ps with
  | nil => exact absurd rfl hne
  | cons q qs => exact alt2_err_left _ _ _ h

theorem altList_cons_ok {α} (p : P α) (ps : List (P α)) (s s' : St) (a : α) (h : p s = .ok s' a) :
    altList (p :: ps) s = .ok s' a := by
  cases ps with
  | nil => exact h
  | cons q qs => exact alt2_ok_left _ _ _ _ _ h

theorem IsErr.nil {α} {s : St} : IsErr (altList ([] : List (P α)) s) := ⟨false, s, rfl⟩

theorem IsErr.cons {α} {p : P α} {ps : List (P α)} {s : St} (hp : IsErr (p s)) (h : IsErr (altList ps s)) :
    IsErr (altList (p :: ps) s) := by
  cases ps with
  | nil => exact hp
  | cons q qs => exact (altList_cons_err p _ s (List.cons_ne_nil _ _) hp).symm ▸ h

theorem altList_err {α} {s : St} : ∀ (ps : List (P α)), (∀ p ∈ ps, IsErr (p s)) → IsErr (altList ps s)
  | [], _ => .nil
  | p :: ps, h => .cons (h p List.mem_cons_self) (altList_err ps (fun q hq => h q (List.mem_cons_of_mem _ hq)))

/-- parsers `f k` that decide on the kind `kd` of the next token, in front of other alternatives: the one
    for `kd` accepts; if there is none, the others decide -/
theorem altList_kinds {α} {f : Kind → P α} {s s1 : St} {a : α} {kd : Kind}
    (hf : ∀ k, f k s = if kd == k then .ok s1 a else .err false s) (ks : List Kind) (qs : List (P α)) :
    (kd ∈ ks → altList (ks.map f ++ qs) s = .ok s1 a) ∧ (kd ∉ ks → altList (ks.map f ++ qs) s = altList qs s) := by
  induction ks with
  | nil => exact ⟨fun h => (nomatch h), fun _ => rfl⟩
  | cons k ks ih =>
    by_cases hk : kd = k
    · subst hk
      exact ⟨fun _ => altList_cons_ok _ _ _ _ _ ((hf kd).trans (if_pos (beq_self_eq_true kd))),
        fun h => absurd List.mem_cons_self h⟩
    · have he : f k s = .err false s := (hf k).trans (if_neg (fun h => hk (beq_iff_eq.mp h)))
      have e : altList (f k :: (ks.map f ++ qs)) s = altList (ks.map f ++ qs) s := by
        cases ks.map f ++ qs with
        | nil => exact he
        | cons q qs' => simp only [altList, alt2, he]
      rw [List.map_cons, List.cons_append, e]
      exact ⟨fun h => ih.1 ((List.mem_cons.mp h).resolve_left hk), fun h => ih.2 (fun hm => h (List.mem_cons_of_mem _ hm))⟩

theorem expect_ok {α} (parser : Option α → P α) (msg : Msg) (s s' : St) (a : α) (h : parser none s = .ok s' a) :
    Spl.Parse.expect none parser msg s = .ok s' (some a) := by
  simp only [Spl.Parse.expect, h]

abbrev G : GCtx := ⟨ctx.toks⟩

/-- The outcome `res` of a parser started in `s` agrees with the specification: it returns `a` (the
    node in the implementation's range convention, `rng` its absolute range) and has consumed exactly the
    tokens `sp.first … sp.last` with the comments in front of them; `rest` is read behind.  `GoodT`, `GoodS` of
    `Lemmas/ParseConformStmt` are instances; `GoodE`, `GoodV` below state the same conjunction for expressions and
    variables directly. -/
def Good {α : Type} (s : St) (res : Res α) (a : α) (rng : Range) (sp : Span) (rest : Toks) : Prop :=
  res = .ok { s with pos := sp.last + 1 } a ∧
  Next ctx.toks s.pos sp.first ∧ sp.first ≤ sp.last ∧ rng = ⟨s.pos, sp.last + 1⟩ ∧
  At ctx { s with pos := sp.last + 1 } rest

/-- `p`, started in `s`, returns `a` at position `j`, where `rest` is read, and changes nothing else -/
structure Parses {α : Type} (p : P α) (s : St) (a : α) (j : Nat) (rest : Toks) : Prop where
  eq : p s = .ok { s with pos := j } a
  le : s.pos ≤ j
  at_ : At ctx { s with pos := j } rest

section
variable {ctx} {α β : Type} {s : St} {res : Res α} {a : α} {b : β} {rng : Range} {sp : Span} {j j' : Nat} {ts rest rest' : Toks}

theorem Good.pos_le (h : Good ctx s res a rng sp rest) : s.pos ≤ sp.last := Nat.le_trans h.2.1.le h.2.2.1

theorem Good.length_le (h : Good ctx s res a rng sp rest) (hat : At ctx s ts) : rest.length ≤ ts.length :=
  hat.length_mono ctx h.2.2.2.2 (Nat.le_succ_of_le h.pos_le)

theorem Good.parses {p : P α} (h : Good ctx s (p s) a rng sp rest) : Parses ctx p s a (sp.last + 1) rest :=
  ⟨h.1, Nat.le_succ_of_le h.pos_le, h.2.2.2.2⟩

theorem Parses.pure (hat : At ctx s ts) (a : α) : Parses ctx (pure' a) s a s.pos ts :=
  ⟨rfl, Nat.le_refl _, hat⟩

theorem Parses.bind {p : P α} {f : α → P β} (h1 : Parses ctx p s a j rest)
    (h2 : Parses ctx (f a) { s with pos := j } b j' rest') : Parses ctx (Parse.bind p f) s b j' rest' :=
  ⟨by simp only [Parse.bind, h1.eq]; exact h2.eq, Nat.le_trans h1.le h2.le, h2.at_⟩

theorem Parses.ret {p : P α} (f : α → β) (h : Parses ctx p s a j rest) :
    Parses ctx (Parse.bind p (fun x => pure' (f x))) s (f a) j rest :=
  h.bind (.pure h.at_ _)

theorem Parses.pmap {p : P α} (f : α → β) (h : Parses ctx p s a j rest) : Parses ctx (pmap f p) s (f a) j rest :=
  ⟨by simp only [Parse.pmap, h.eq], h.le, h.at_⟩

theorem Parses.expect {parser : Option α → P α} {msg : Msg} (h : Parses ctx (parser none) s a j rest) :
    Parses ctx (Spl.Parse.expect none parser msg) s (some a) j rest :=
  ⟨expect_ok _ _ _ _ _ h.eq, h.le, h.at_⟩

theorem Parses.info {p : P α} (h : Parses ctx p { s with errBuf := [] } a j rest) (href : s.refPos ≤ s.pos) :
    Parses ctx (info p) s (a, { range := ⟨s.pos - s.refPos, j - s.refPos⟩, errors := [] }) j rest :=
  ⟨info_ok p s _ a h.eq href (Nat.le_trans href h.le), h.le, ⟨h.at_.fresh, Nat.le_trans href h.le, h.at_.toks⟩⟩

theorem Parses.alt2_left {p q : P α} (h : Parses ctx p s a j rest) : Parses ctx (alt2 p q) s a j rest :=
  ⟨alt2_ok_left _ _ _ _ _ h.eq, h.le, h.at_⟩

theorem Parses.alt2_right {p q : P α} (hp : IsErr (p s)) (h : Parses ctx q s a j rest) : Parses ctx (alt2 p q) s a j rest :=
  ⟨(alt2_err_left p q s hp).trans h.eq, h.le, h.at_⟩

theorem Parses.opt {p : P α} (h : Parses ctx p s a j rest) : Parses ctx (Parse.opt p) s (some a) j rest :=
  ⟨by simp only [Parse.opt, h.eq], h.le, h.at_⟩

theorem Parses.opt_none {p : P α} (hat : At ctx s ts) (h : IsErr (p s)) : Parses ctx (Parse.opt p) s none s.pos ts := by
  obtain ⟨k, s', h⟩ := h
  exact ⟨by simp only [Parse.opt, h], Nat.le_refl _, hat⟩

theorem Parses.length_le {p : P α} (h : Parses ctx p s a j rest) (hat : At ctx s ts) : rest.length ≤ ts.length :=
  hat.length_mono ctx h.at_ h.le

theorem Parses.token {i : Nat} {ty : TokenType} (h : At ctx s (⟨i, ty⟩ :: rest)) {k : Kind} (hk : (ty.kind == k) = true) :
    ∃ t, t.ty = ty ∧ Parses ctx (tk ctx k) s t (i + 1) rest :=
  let ⟨t, _, hty, _, hat, he⟩ := tk_head ctx h
  ⟨t, hty, (he k).trans (if_pos hk), Nat.le_succ_of_le h.head.1.le, hat⟩

theorem Parses.expect_token {i : Nat} {ty : TokenType} (h : At ctx s (⟨i, ty⟩ :: rest)) {k : Kind}
    (hk : (ty.kind == k) = true) :
    ∃ t, ∀ msg, Parses ctx (Spl.Parse.expect none (inc (tk ctx k)) msg) s (some t) (i + 1) rest :=
  let ⟨t, _, h⟩ := Parses.token h hk
  ⟨t, fun _ => Parses.expect (parser := inc (tk ctx k)) h⟩

/-- a result that ends behind token `j` of a parser started in front of token `i` has the range the
    specification gives a node with these first and last tokens -/
theorem Good.head {i : Nat} {ty : TokenType} {r : Toks} (hat : At ctx s (⟨i, ty⟩ :: r))
    (hres : res = .ok { s with pos := j + 1 } a) (hat' : At ctx { s with errBuf := [], pos := j + 1 } rest) (hij : i ≤ j) :
    Good ctx s res a (mkInfo (G ctx) i j).range ⟨i, j⟩ rest := by
  obtain ⟨hN, _, _, hlead⟩ := hat.head
  exact ⟨hres, hN, hij, by simp only [mkInfo, hlead],
    ⟨hat'.fresh, Nat.le_trans hat.ref (Nat.le_succ_of_le (Nat.le_trans hN.le hij)), hat'.toks⟩⟩

/-- `info` around a parser that starts at the head token measures the specification's range -/
theorem Good.node {inner : P β} {f : β × AstInfo → α} {i : Nat} {ty : TokenType} {r : Toks}
    (hat : At ctx s (⟨i, ty⟩ :: r)) (hin : Parses ctx inner { s with errBuf := [] } b (j + 1) rest) (hij : i + 1 ≤ j + 1)
    (ha : f (b, { range := ⟨lead (G ctx) i - s.refPos, j + 1 - s.refPos⟩, errors := [] }) = a) :
    Good ctx s (pmap f (info inner) s) a (mkInfo (G ctx) i j).range ⟨i, j⟩ rest := by
  rw [hat.head.2.2.2] at ha
  exact Good.head hat (by simp only [Parse.pmap, (hin.info hat.ref).eq, ha]) hin.at_ (Nat.le_of_succ_le_succ hij)

theorem Good.seq {γ : Type} {p : P γ} {c : γ} {g : γ → P β} {f : β × AstInfo → α} {i i0 : Nat} {ty : TokenType} {r r0 : Toks}
    (hat : At ctx s (⟨i, ty⟩ :: r)) (h0 : Parses ctx p { s with errBuf := [] } c (i0 + 1) r0) (hi : i ≤ i0)
    (tl : Parses ctx (g c) { s with errBuf := [], pos := i0 + 1 } b (j + 1) rest)
    (ha : f (b, { range := ⟨lead (G ctx) i - s.refPos, j + 1 - s.refPos⟩, errors := [] }) = a) :
    Good ctx s (pmap f (info (Parse.bind p g)) s) a (mkInfo (G ctx) i j).range ⟨i, j⟩ rest :=
  Good.node hat (h0.bind tl) (Nat.le_trans (Nat.succ_le_succ hi) tl.le) ha

theorem Good.kw {g : Token → P β} {f : β × AstInfo → α} {i : Nat} {ty : TokenType} {r : Toks} {k : Kind}
    (hat : At ctx s (⟨i, ty⟩ :: r)) (hk : (ty.kind == k) = true)
    (tl : ∀ t, Parses ctx (g t) { s with errBuf := [], pos := i + 1 } b (j + 1) rest)
    (ha : f (b, { range := ⟨lead (G ctx) i - s.refPos, j + 1 - s.refPos⟩, errors := [] }) = a) :
    Good ctx s (pmap f (info (Parse.bind (tk ctx k) g)) s) a (mkInfo (G ctx) i j).range ⟨i, j⟩ rest :=
  let ⟨t, _, h0⟩ := Parses.token (hat.clearErr ctx) hk
  Good.seq hat h0 (Nat.le_refl _) (tl t) ha

theorem kw_fail {g : Token → P β} {f : β × AstInfo → α} {k : Kind} (h : At ctx s ts)
    (hne : ∀ i ty r, ts = ⟨i, ty⟩ :: r → ty.kind ≠ k) : IsErr (pmap f (info (Parse.bind (tk ctx k) g)) s) :=
  pmap_err _ _ _ (info_err _ _ (bind_err _ _ _ (tagK_fail ctx (h.clearErr ctx) k hne)) h.ref)

/-- a parser under a fresh `Reference`: `v b` is the node relative to `b` -/
theorem Good.ref {parseT : Option α → P α} {v : Nat → α} (hat : At ctx s ts)
    (h : Good ctx { s with refPos := s.pos } (parseT none { s with refPos := s.pos }) (v s.pos) rng sp rest) :
    Parses ctx (refParse parseT none) s ⟨v rng.lo, rng.lo - s.refPos⟩ (sp.last + 1) rest := by
  have hp : s.pos ≤ sp.last := h.pos_le
  obtain ⟨g1, _, _, g4, g5⟩ := h
  refine ⟨?_, Nat.le_succ_of_le hp, ⟨g5.fresh, Nat.le_trans hat.ref (Nat.le_succ_of_le hp), g5.toks⟩⟩
  simp only [refParse, Option.isSome_none, Bool.false_eq_true, if_false, Nat.not_lt.mpr hat.ref, Option.map_none, g1, g4]

theorem Good.alt2_left {p q : P α} (h : Good ctx s (p s) a rng sp rest) : Good ctx s (alt2 p q s) a rng sp rest :=
  ⟨alt2_ok_left _ _ _ _ _ h.1, h.2⟩

theorem Good.alt2_right {p q : P α} (hp : IsErr (p s)) (h : Good ctx s (q s) a rng sp rest) :
    Good ctx s (alt2 p q s) a rng sp rest :=
  (alt2_err_left p q s hp).symm ▸ h

theorem Good.cons {p : P α} {ps : List (P α)} (h : Good ctx s (p s) a rng sp rest) :
    Good ctx s (altList (p :: ps) s) a rng sp rest :=
  ⟨altList_cons_ok _ _ _ _ _ h.1, h.2⟩

theorem Good.skip {p q : P α} {qs : List (P α)} (hp : IsErr (p s)) (h : Good ctx s (altList (q :: qs) s) a rng sp rest) :
    Good ctx s (altList (p :: q :: qs) s) a rng sp rest :=
  (altList_cons_err p _ s (List.cons_ne_nil _ _) hp).symm ▸ h

theorem Good.pmap {p : P β} (f : β → α) (h : Good ctx s (p s) b rng sp rest) : Good ctx s (pmap f p s) (f b) rng sp rest :=
  ⟨by simp only [Parse.pmap, h.1], h.2⟩

theorem ident_ok {i : Nat} {name : List Char} (h : At ctx s (⟨i, .Ident name⟩ :: rest)) :
    Parses ctx (parseIdentifier ctx none) s (relIdent s.refPos (mkIdent ⟨ctx.toks⟩ i name)) (i + 1) rest :=
  let ⟨_, hty, h'⟩ := Parses.token (h.clearErr ctx) (k := .Ident) rfl
  (Good.node h (f := fun (p : Token × AstInfo) => ({ value := displayToken p.1.ty, info := p.2 } : Identifier)) h'
    (Nat.le_refl _) (by simp only [hty]; rfl)).parses

theorem ident_fail (h : At ctx s ts)
    (hne : ∀ i ty r, ts = ⟨i, ty⟩ :: r → ty.kind ≠ .Ident) : IsErr (parseIdentifier ctx none s) :=
  pmap_err _ _ _ (info_err _ _ (tagK_fail ctx (h.clearErr ctx) .Ident hne) h.ref)

end

theorem intLit_ok {s : St} {ts rest : Toks} {l : IntLiteral} {i : Nat} (h : At ctx s ts)
    (hs : intLitTok ⟨ctx.toks⟩ ts = some (l, i, rest)) :
    Good ctx s (parseIntLiteral ctx none s) (relIntLit s.refPos l) l.info.range ⟨i, i⟩ rest := by
  cases ts with
  | nil => cases hs
  | cons t0 r0 =>
    obtain ⟨j, ty⟩ := t0
    obtain ⟨⟨ty', _, _⟩, _, hty, _, hat1, he⟩ := tk_head ctx (h.clearErr ctx)
    obtain rfl : ty' = ty := hty
    have hle := Nat.le_succ_of_le h.head.1.le
    -- the alternatives decide on the kind of the token: the one for it takes it, those in front of it fail
    cases ty' with
    | Int res | Hex res =>
      cases res with
      | Err e => cases hs
      | Int v => cases hs; exact Good.node h ⟨by simp only [altList, alt2, pmap, he]; rfl, hle, hat1⟩ (Nat.le_refl _) rfl
    | Char c =>
      simp only [intLitTok] at hs
      split at hs
      · next hlt =>
        cases hs
        exact Good.node h ⟨by simp only [altList, alt2, pmap, he]; rfl, hle, hat1⟩ (Nat.le_refl _)
          (by simp only [Nat.mod_eq_of_lt hlt]; rfl)
      · cases hs
    | _ => cases hs

theorem intLit_fail {s : St} {ts : Toks} (h : At ctx s ts)
    (hne : ∀ i ty r, ts = ⟨i, ty⟩ :: r → ty.kind ≠ .Hex ∧ ty.kind ≠ .Char ∧ ty.kind ≠ .Int) :
    IsErr (parseIntLiteral ctx none s) :=
  have f : ∀ (k : Kind) (g : Token → Option Nat), (∀ i ty r, ts = ⟨i, ty⟩ :: r → ty.kind ≠ k) →
      IsErr (pmap g (tk ctx k) { s with errBuf := [] }) :=
    fun k _ hk => pmap_err _ _ _ (tagK_fail ctx (h.clearErr ctx) k hk)
  pmap_err _ _ _ (info_err _ _ (.cons (f _ _ fun i ty r e => (hne i ty r e).1)
    (.cons (f _ _ fun i ty r e => (hne i ty r e).2.1) (.cons (f _ _ fun i ty r e => (hne i ty r e).2.2) .nil))) h.ref)

theorem relVar_info (r : Nat) (v : Var) : (relVar r v).info = relInfo r v.info := by
  cases v <;> simp only [relVar, Var.info, relIdent]

theorem relExpr_info (r : Nat) (e : Expr) : (relExpr r e).info = relInfo r e.info := by
  cases e <;> simp only [relExpr, Expr.info, relIntLit, relVar_info]

def GoodE (s : St) (res : Res Expr) (e : Expr) (sp : Span) (rest : Toks) : Prop :=
  res = .ok { s with pos := sp.last + 1 } (relExpr s.refPos e) ∧
  Next ctx.toks s.pos sp.first ∧ sp.first ≤ sp.last ∧ e.info.range = ⟨s.pos, sp.last + 1⟩ ∧
  At ctx { s with pos := sp.last + 1 } rest

def GoodV (s : St) (res : Res Var) (v : Var) (sp : Span) (rest : Toks) : Prop :=
  res = .ok { s with pos := sp.last + 1 } (relVar s.refPos v) ∧
  Next ctx.toks s.pos sp.first ∧ sp.first ≤ sp.last ∧ v.info.range = ⟨s.pos, sp.last + 1⟩ ∧
  At ctx { s with pos := sp.last + 1 } rest

/-- the left operand of a loop (`parse_add` / `parse_mul`, the array accesses behind a variable name, and the one
    optional round of `parse_comparison`): already parsed, the state is behind it -/
structure LoopAt (s : St) (rng : Range) (sl : Span) (p0 : Nat) (ts : Toks) : Prop where
  at_ : At ctx s ts
  pos : s.pos = sl.last + 1
  range : rng = ⟨p0, sl.last + 1⟩
  lead : lead (G ctx) sl.first = p0
  ref : s.refPos ≤ p0
  le : p0 ≤ sl.first ∧ sl.first ≤ sl.last

structure Conf (fs : Nat) : Prop where
  expr : ∀ ts e sp rest, expr (G ctx) fs ts = some (e, sp, rest) → ∀ fm s, At ctx s ts → 8 * ts.length + 6 ≤ fm →
    GoodE ctx s (parseComparison ctx fm s) e sp rest
  add : ∀ ts e sp rest, add (G ctx) fs ts = some (e, sp, rest) → ∀ fm s, At ctx s ts → 8 * ts.length + 5 ≤ fm →
    GoodE ctx s (parseAdd ctx fm s) e sp rest
  addRest : ∀ ts l sl e sp rest, addRest (G ctx) fs l sl ts = some (e, sp, rest) → ∀ fm lf s p0,
    LoopAt ctx s l.info.range sl p0 ts → 8 * ts.length + 4 ≤ fm → ts.length < lf →
    opLoop ctx [.Plus, .Minus] (parseRhs (parseMul ctx fm)) lf (relExpr s.refPos l) s =
      .ok { s with pos := sp.last + 1 } (relExpr s.refPos e) ∧
    e.info.range = ⟨p0, sp.last + 1⟩ ∧ sp.first = sl.first ∧ sl.last ≤ sp.last ∧ At ctx { s with pos := sp.last + 1 } rest
  mul : ∀ ts e sp rest, mul (G ctx) fs ts = some (e, sp, rest) → ∀ fm s, At ctx s ts → 8 * ts.length + 4 ≤ fm →
    GoodE ctx s (parseMul ctx fm s) e sp rest
  mulRest : ∀ ts l sl e sp rest, mulRest (G ctx) fs l sl ts = some (e, sp, rest) → ∀ fm lf s p0,
    LoopAt ctx s l.info.range sl p0 ts → 8 * ts.length + 3 ≤ fm → ts.length < lf →
    opLoop ctx [.Times, .Divide] (parseRhs (parseFactor ctx fm)) lf (relExpr s.refPos l) s =
      .ok { s with pos := sp.last + 1 } (relExpr s.refPos e) ∧
    e.info.range = ⟨p0, sp.last + 1⟩ ∧ sp.first = sl.first ∧ sl.last ≤ sp.last ∧ At ctx { s with pos := sp.last + 1 } rest
  factor : ∀ ts e sp rest, factor (G ctx) fs ts = some (e, sp, rest) → ∀ fm s, At ctx s ts → 8 * ts.length + 3 ≤ fm →
    GoodE ctx s (parseFactor ctx fm s) e sp rest
  varAccess : ∀ ts v sp rest, varAccess (G ctx) fs ts = some (v, sp, rest) → ∀ fm s, At ctx s ts → 8 * ts.length + 1 ≤ fm →
    GoodV ctx s (parseVariable ctx fm none s) v sp rest
  accesses : ∀ ts v sv vf sp rest, accesses (G ctx) fs v sv ts = some (vf, sp, rest) → ∀ fe lf s p0 (vinfo : AstInfo),
    LoopAt ctx s v.info.range sv p0 ts → vinfo.range.lo = p0 - s.refPos → vinfo.range.hi ≤ sv.last + 1 - s.refPos →
    8 * ts.length ≤ fe → ts.length < lf →
    ∃ accs, many0 (accessParser ctx (refParse (parseExpression ctx fe))) lf s = .ok { s with pos := sp.last + 1 } accs ∧
      accs.foldl (accessStep vinfo) (relVar s.refPos v) = relVar s.refPos vf ∧
      vf.info.range = ⟨p0, sp.last + 1⟩ ∧ sp.first = sv.first ∧ sv.last ≤ sp.last ∧ At ctx { s with pos := sp.last + 1 } rest

theorem altTk_head {s : St} {i : Nat} {ty : TokenType} {rest : Toks} (h : At ctx s (⟨i, ty⟩ :: rest)) :
    ∀ (ks : List Kind), ∃ t, ctx.toks[i]? = some t ∧ t.ty = ty ∧
      (ty.kind ∈ ks → altList (ks.map (tk ctx)) s = .ok { s with pos := i + 1 } t) ∧
      (ty.kind ∉ ks → IsErr (altList (ks.map (tk ctx)) s))
  | ks =>
    let ⟨t, ht, hty, _, _, he⟩ := tk_head ctx h
    have hk := List.append_nil _ ▸ altList_kinds he ks []
    ⟨t, ht, hty, hk.1, fun hm => ⟨false, s, hk.2 hm⟩⟩

/-- `fop` accepts exactly the kinds `ops` and agrees with the model's `opOfKind` on them -/
structure OpSpec (fop : Kind → Option Operator) (ops : List Kind) : Prop where
  some : ∀ k op, fop k = some op → k ∈ ops ∧ opOfKind k = some op
  none : ∀ k, fop k = none → k ∉ ops

theorem relop_spec : OpSpec relop [.Eq, .Neq, .Le, .Lt, .Ge, .Gt] where
  some k op h := by cases k <;> first | (cases h; done) | exact ⟨by decide, h⟩
  none k h := by cases k <;> first | (cases h; done) | decide

theorem addop_spec : OpSpec addop [.Plus, .Minus] where
  some k op h := by cases k <;> first | (cases h; done) | exact ⟨by decide, h⟩
  none k h := by cases k <;> first | (cases h; done) | decide

theorem mulop_spec : OpSpec mulop [.Times, .Divide] where
  some k op h := by cases k <;> first | (cases h; done) | exact ⟨by decide, h⟩
  none k h := by cases k <;> first | (cases h; done) | decide

/-- the outcome of what the model does behind the left operand `l` (`loop`: further rounds of an
    operator loop, or nothing) agrees with the specification -/
def GoodLoop (loop : Expr → P Expr) (s : St) (p0 : Nat) (l : Expr) (sl : Span) (e : Expr) (sp : Span) (rest : Toks) : Prop :=
  loop (relExpr s.refPos l) s = .ok { s with pos := sp.last + 1 } (relExpr s.refPos e) ∧
  e.info.range = ⟨p0, sp.last + 1⟩ ∧ sp.first = sl.first ∧ sl.last ≤ sp.last ∧ At ctx { s with pos := sp.last + 1 } rest

/-- one round of the specification's loops `addRest` / `mulRest`, and with `rest` = stop the comparison of
    `Grammar.rel`: an operator `fop`, a right operand, and the continuation `rest` with the new left operand -/
def restStep (g : GCtx) (fop : Kind → Option Operator) (operand : Toks → Option (Expr × Span × Toks))
    (rest : Expr → Span → Toks → Option (Expr × Span × Toks)) (l : Expr) (sl : Span) (ts : Toks) :
    Option (Expr × Span × Toks) :=
  match ts with
  | t :: r1 =>
    match fop t.ty.kind with
    | some op =>
      match operand r1 with
      | some (rh, sr, r2) => rest (.binary op l rh (mkInfo g sl.first sr.last)) ⟨sl.first, sr.last⟩ r2
      | none => none
    | none => some (l, sl, ts)
  | [] => some (l, sl, ts)

theorem restStep_cases {g : GCtx} {fop : Kind → Option Operator} {operand : Toks → Option (Expr × Span × Toks)}
    {rest : Expr → Span → Toks → Option (Expr × Span × Toks)} {l : Expr} {sl : Span} {ts : Toks} {x : Expr × Span × Toks}
    (h : restStep g fop operand rest l sl ts = some x) :
    ((∀ i ty r, ts = ⟨i, ty⟩ :: r → fop ty.kind = none) ∧ x = (l, sl, ts)) ∨
    ∃ i ty r1 op rh sr r2, ts = ⟨i, ty⟩ :: r1 ∧ fop ty.kind = some op ∧ operand r1 = some (rh, sr, r2) ∧
      rest (.binary op l rh (mkInfo g sl.first sr.last)) ⟨sl.first, sr.last⟩ r2 = some x := by
  unfold restStep at h
  split at h
  · next t r1 =>
    split at h
    · next op hop =>
      split at h
      · next rh sr r2 hm => exact .inr ⟨t.idx, t.ty, r1, op, rh, sr, r2, rfl, hop, hm, h⟩
      · cases h
    · next hop => cases h; exact .inl ⟨fun _ _ _ e => by cases e; exact hop, rfl⟩
  · cases h; exact .inl ⟨fun _ _ _ e => (nomatch e), rfl⟩

/-- one round of the model: `step` tries the operator tokens `ops`; without one it returns the left operand,
    with one it parses the right operand by `parse_rhs(pm)` and continues with `k` -/
structure Round (ops : List Kind) (pm : P Expr) (step k : Expr → P Expr) : Prop where
  stop : ∀ e s, IsErr (altList (ops.map (tk ctx)) s) → step e s = .ok s e
  go : ∀ e s s1 tok op s2 e', altList (ops.map (tk ctx)) s = .ok s1 tok → opOfKind tok.kind = some op →
    parseRhs pm e op s1 = .ok s2 e' → step e s = k e' s2

section
variable {ctx}

theorem LoopAt.stop {loop : Expr → P Expr} {s : St} {l : Expr} {sl : Span} {p0 : Nat} {ts : Toks}
    (hL : LoopAt ctx s l.info.range sl p0 ts) (h : loop (relExpr s.refPos l) s = .ok s (relExpr s.refPos l)) :
    GoodLoop ctx loop s p0 l sl l sl ts := by
  rw [GoodLoop, st_eta s _ hL.pos]
  exact ⟨h, hL.range, rfl, Nat.le_refl _, hL.at_⟩

theorem restStep_conf {fop : Kind → Option Operator} {ops : List Kind} (hop : OpSpec fop ops) {pm : P Expr}
    {step k : Expr → P Expr} (hround : Round ctx ops pm step k)
    {operand : Toks → Option (Expr × Span × Toks)} {rest : Expr → Span → Toks → Option (Expr × Span × Toks)} {ts : Toks}
    (hoperand : ∀ ts' e sp r, operand ts' = some (e, sp, r) → ∀ s, At ctx s ts' → ts'.length < ts.length →
      GoodE ctx s (pm s) e sp r)
    (hrest : ∀ ts' l sl e sp r, rest l sl ts' = some (e, sp, r) → ∀ s p0, LoopAt ctx s l.info.range sl p0 ts' →
      ts'.length < ts.length → GoodLoop ctx k s p0 l sl e sp r)
    {l e : Expr} {sl sp : Span} {r : Toks} (hs : restStep (G ctx) fop operand rest l sl ts = some (e, sp, r))
    {s : St} {p0 : Nat} (hL : LoopAt ctx s l.info.range sl p0 ts) : GoodLoop ctx step s p0 l sl e sp r := by
  rcases restStep_cases hs with ⟨hnone, e⟩ | ⟨i, ty, r1, op, rh, sr, r2, rfl, hfop, hm, hs⟩
  · cases e
    -- no operator: every alternative of the model fails on the head token
    exact hL.stop (hround.stop _ _ (altList_err _ fun _ hp =>
      let ⟨k, hk, e⟩ := List.mem_map.mp hp
      e ▸ tagK_fail ctx hL.at_ k (fun i ty r e hty => hop.none _ (hnone i ty r e) (hty ▸ hk))))
  · obtain ⟨tok, _, hty, halt, _⟩ := altTk_head ctx hL.at_ ops
    obtain ⟨hmem, hopk⟩ := hop.some _ _ hfop
    have hat1 := hL.at_.tail
    have hg := hoperand r1 rh sr r2 hm _ hat1 (Nat.lt_succ_self _)
    have hlen := Good.length_le hg hat1
    have hi : s.pos ≤ i := hL.at_.head.1.le
    have hi1 : i + 1 ≤ sr.last := Good.pos_le hg
    have hpos := hL.pos
    obtain ⟨hres, _, _, _, hat2⟩ := hg
    -- `parse_rhs` builds the binary node, which is the left operand of what follows
    have hrhs : parseRhs pm (relExpr s.refPos l) op { s with pos := i + 1 } =
        .ok { s with pos := sr.last + 1 } (relExpr s.refPos (.binary op l rh (mkInfo (G ctx) sl.first sr.last))) := by
      simp only [parseRhs, Spl.Parse.expect, inc, hres, Nat.not_lt.mpr hat2.ref, if_false, Option.getD_some, relExpr, relInfo,
        mkInfo, relExpr_info, hL.lead, hL.range]
    obtain ⟨g1, g2, g3, (g4 : sr.last ≤ sp.last), g5⟩ := hrest r2 _ _ e sp r hs _ p0
      ⟨hat2, rfl, by simp only [Expr.info, mkInfo, hL.lead], hL.lead, hL.ref, hL.le.1,
        by have := hL.le.2; show sl.first ≤ sr.last; omega⟩ (Nat.lt_succ_of_le hlen)
    exact ⟨(hround.go _ _ _ _ _ _ _ (halt hmem) (by rw [Token.kind, hty]; exact hopk) hrhs).trans g1, g2, g3, by omega, g5⟩

theorem opLoop_round (ops : List Kind) (pm : P Expr) (lf : Nat) :
    Round ctx ops pm (opLoop ctx ops (parseRhs pm) (lf + 1)) (opLoop ctx ops (parseRhs pm) lf) :=
  ⟨fun e s ⟨k, s', h⟩ => by simp only [opLoop, h], fun e s s1 tok op s2 e' h1 h2 h3 => by simp only [opLoop, h1, h2, h3]⟩

/-! An operand and what the model does behind it (the loops of `Add` and `Mul`, the comparison of `Expr`) in the
    shape of `Conf`: `pmf` is the operand parser by fuel, `c` its fuel offset, `loop` what follows, by operand fuel
    and loop fuel. -/
section
variable {c : Nat} {pmf : Nat → P Expr} {loop : Nat → Nat → Expr → P Expr}
  {operand : Toks → Option (Expr × Span × Toks)} {rest : Expr → Span → Toks → Option (Expr × Span × Toks)}
  (hoperand : ∀ ts e sp r, operand ts = some (e, sp, r) → ∀ fm s, At ctx s ts → 8 * ts.length + c ≤ fm →
    GoodE ctx s (pmf fm s) e sp r)
  (hrest : ∀ ts l sl e sp r, rest l sl ts = some (e, sp, r) → ∀ fm lf s p0, LoopAt ctx s l.info.range sl p0 ts →
    8 * ts.length + c ≤ fm → ts.length < lf → GoodLoop ctx (loop fm lf) s p0 l sl e sp r)
include hoperand hrest

theorem opRest_conf {ops : List Kind} {fop : Kind → Option Operator} (hop : OpSpec fop ops)
    (hround : ∀ fm lf, Round ctx ops (pmf fm) (loop fm (lf + 1)) (loop fm lf)) {ts : Toks} {l e : Expr} {sl sp : Span}
    {r : Toks} (hs : restStep (G ctx) fop operand rest l sl ts = some (e, sp, r)) {fm lf : Nat} {s : St} {p0 : Nat}
    (hL : LoopAt ctx s l.info.range sl p0 ts) (hfm : 8 * ts.length + c ≤ fm) (hlf : ts.length < lf) :
    GoodLoop ctx (loop fm lf) s p0 l sl e sp r := by
  obtain ⟨lf', rfl⟩ : ∃ f, lf = f + 1 := ⟨lf - 1, by omega⟩
  exact restStep_conf hop (hround fm lf')
    (fun ts' e sp r h s hat hlt => hoperand ts' e sp r h fm s hat (by omega))
    (fun ts' l sl e sp r h s p0 hL hlt => hrest ts' l sl e sp r h fm lf' s p0 hL (by omega) (by omega)) hs hL

theorem operandRest_conf {ts : Toks} {e : Expr} {sp : Span} {r : Toks}
    (hs : (match operand ts with
      | none => none
      | some (l, sl, r) => rest l sl r) = some (e, sp, r)) {fm : Nat} {s : St} (hat : At ctx s ts)
    (hfm : 8 * ts.length + c ≤ fm) :
    GoodE ctx s (Parse.bind (pmf fm) (loop fm (loopFuel ctx)) s) e sp r := by
  cases hm : operand ts with
  | none => rw [hm] at hs; cases hs
  | some res =>
    obtain ⟨l, sl, r'⟩ := res
    simp only [hm] at hs
    have hg := hoperand ts l sl r' hm fm s hat hfm
    have hlen := Good.length_le hg hat
    obtain ⟨hres, hN, hle, hrng, hat'⟩ := hg
    -- what follows starts behind the operand, whose first token is the next one from `s.pos`
    obtain ⟨g1, g2, g3, g4, g5⟩ := hrest r' l sl e sp r hs fm (loopFuel ctx) { s with pos := sl.last + 1 } s.pos
      ⟨hat', rfl, hrng, lead_next ctx.toks s.pos sl.first hat.fresh hN, hat.ref, hN.le, hle⟩ (by omega) (loopFuel_gt ctx hat')
    refine ⟨?_, g3 ▸ hN, by omega, g2, g5⟩
    simp only [Parse.bind, hres]
    exact g1

end
end

theorem addRest_succ (g : GCtx) (fs : Nat) (l : Expr) (sl : Span) (ts : Toks) :
    addRest g (fs + 1) l sl ts = restStep g addop (Grammar.mul g fs) (addRest g fs) l sl ts := by
  cases ts <;> rfl

theorem mulRest_succ (g : GCtx) (fs : Nat) (l : Expr) (sl : Span) (ts : Toks) :
    mulRest g (fs + 1) l sl ts = restStep g mulop (Grammar.factor g fs) (mulRest g fs) l sl ts := by
  cases ts <;> rfl

theorem expr_succ (g : GCtx) (fs : Nat) (ts : Toks) :
    expr g (fs + 1) ts = match Grammar.add g fs ts with
      | none => none
      | some (l, sl, r) => restStep g relop (Grammar.add g fs) (fun e sp r => some (e, sp, r)) l sl r := by
  simp only [Grammar.expr]
  cases Grammar.add g fs ts with
  | none => rfl
  | some res =>
    obtain ⟨l, sl, r⟩ := res
    cases r <;> rfl

/-- the optional comparison of `parse_comparison`, behind the left operand -/
def cmpStep (f : Nat) (e : Expr) : P Expr := fun s =>
  match altList ([Kind.Eq, .Neq, .Le, .Lt, .Ge, .Gt].map (tk ctx)) s with
  | .ok s1 t =>
    match opOfKind t.kind with
    | none => .panic ⟨"expect:Operator conversion failed"⟩
    | some op => parseRhs (parseAdd ctx f) e op s1
  | .err _ _ => .ok s e
  | .panic p => .panic p

theorem variable_fail {s : St} {ts : Toks} (h : At ctx s ts) (f : Nat)
    (hne : ∀ i ty r, ts = ⟨i, ty⟩ :: r → ty.kind ≠ .Ident) : IsErr (parseVariable ctx (f + 1) none s) := by
  obtain ⟨k, s', he⟩ := info_err (pmap Var.named (parseIdentifier ctx none)) s
    (pmap_err _ _ _ (ident_fail (h.clearErr ctx) hne)) h.ref
  exact ⟨k, s', by simp only [parseVariable, affected, he]⟩

theorem primary_fail {s : St} {ts : Toks} (h : At ctx s ts) (f : Nat)
    (hne : ∀ i ty r, ts = ⟨i, ty⟩ :: r →
      ty.kind ≠ .Hex ∧ ty.kind ≠ .Char ∧ ty.kind ≠ .Int ∧ ty.kind ≠ .Ident ∧ ty.kind ≠ .LParen) :
    IsErr (parsePrimary ctx (f + 2) s) :=
  .cons (pmap_err _ _ _ (intLit_fail ctx h (fun i ty r e => ⟨(hne i ty r e).1, (hne i ty r e).2.1, (hne i ty r e).2.2.1⟩)))
    (.cons (pmap_err _ _ _ (variable_fail ctx h f (fun i ty r e => (hne i ty r e).2.2.2.1)))
      (.cons (let ⟨k, s', he⟩ := info_err (bracketedInner ctx (parseComparison ctx f)) s (bind_err _ _ _ (info_err _ _
        (tagK_fail ctx ((h.clearErr ctx).clearErr ctx) .LParen (fun i ty r e => (hne i ty r e).2.2.2.2)) h.ref)) h.ref
        ⟨k, s', by simp only [parseBracketed, he]⟩) .nil))

theorem expectK_some (k : Kind) (ts r : Toks) (i : Nat) (h : expectK k ts = some (i, r)) :
    ∃ ty, ts = ⟨i, ty⟩ :: r ∧ (ty.kind == k) = true := by
  cases ts with
  | nil => cases h
  | cons t r' =>
    obtain ⟨j, ty⟩ := t
    simp only [expectK] at h
    split at h
    · next hk => cases h; exact ⟨ty, rfl, hk⟩
    · cases h

theorem identTok_some (ts r : Toks) (j : Nat) (nm : List Char) (h : identTok ts = some (j, nm, r)) :
    ts = ⟨j, .Ident nm⟩ :: r := by
  unfold identTok at h
  split at h
  · cases h; rfl
  · cases h

theorem accesses_other (g : GCtx) (fs i : Nat) (ty : TokenType) (r : Toks) (v : Var) (sv : Span) (h : ty ≠ .LBracket) :
    accesses g (fs + 1) v sv (⟨i, ty⟩ :: r) = some (v, sv, ⟨i, ty⟩ :: r) := by
  rw [Grammar.accesses]
  exact fun _ _ e => h (by cases e; rfl)

theorem conf_succ {fs : Nat} (ih : Conf ctx fs) : Conf ctx (fs + 1) where
  expr := by
    intro ts e sp rest hs fm s hat hfm
    obtain ⟨fm', rfl⟩ : ∃ f, fm = f + 1 := ⟨fm - 1, by omega⟩
    rw [expr_succ] at hs
    refine operandRest_conf (loop := fun f _ => cmpStep ctx f) ih.add ?_ hs hat (by omega)
    intro ts l sl e sp r hs f _ s p0 hL hf _
    exact restStep_conf relop_spec (k := pure')
      ⟨fun e s ⟨k, s', h⟩ => by simp only [cmpStep, h], fun e s s1 tok op s2 e' h1 h2 h3 => by simp only [cmpStep, h1, h2, h3, pure']⟩
      (fun ts' e sp r h s hat hlt => ih.add ts' e sp r h f s hat (by omega))
      (fun ts' l sl e sp r h s p0 hL _ => by cases h; exact hL.stop rfl) hs hL
  add := by
    intro ts e sp rest hs fm s hat hfm
    obtain ⟨fm', rfl⟩ : ∃ f, fm = f + 1 := ⟨fm - 1, by omega⟩
    exact operandRest_conf ih.mul ih.addRest hs hat (by omega)
  addRest := by
    intro ts l sl e sp rest hs fm lf s p0 hL hfm hlf
    rw [addRest_succ] at hs
    exact opRest_conf ih.mul ih.addRest addop_spec (fun _ _ => opLoop_round _ _ _) hs hL hfm hlf
  mul := by
    intro ts e sp rest hs fm s hat hfm
    obtain ⟨fm', rfl⟩ : ∃ f, fm = f + 1 := ⟨fm - 1, by omega⟩
    exact operandRest_conf ih.factor ih.mulRest hs hat (by omega)
  mulRest := by
    intro ts l sl e sp rest hs fm lf s p0 hL hfm hlf
    rw [mulRest_succ] at hs
    exact opRest_conf ih.factor ih.mulRest mulop_spec (fun _ _ => opLoop_round _ _ _) hs hL hfm hlf
  factor := by
    intro ts e sp rest hs fm s hat hfm
    obtain ⟨f, rfl⟩ : ∃ f, fm = f + 3 := ⟨fm - 3, by omega⟩
    show GoodE ctx s (alt2 (altList [pmap Expr.intLit (parseIntLiteral ctx none),
      pmap Expr.var (parseVariable ctx (f + 1) none), parseBracketed ctx (f + 1)]) (parseUnary ctx (f + 2)) s) e sp rest
    unfold Grammar.factor at hs
    split at hs
    · -- unary minus
      next i r =>
      split at hs
      · next e1 se _ hf =>
        cases hs
        have hg := Good.parses (ih.factor r e1 se _ hf (f + 1) _ ((hat.clearErr ctx).tail ctx)
          (by simp only [List.length_cons] at hfm; omega))
        exact Good.alt2_right (primary_fail ctx hat f (fun _ _ _ e => by cases e; decide))
          (Good.kw hat rfl (fun _ => hg) rfl)
      · cases hs
    · -- parenthesised expression
      next i r =>
      split at hs
      · next e1 se r1 hf =>
        split at hs
        · next j _ hk =>
          cases hs
          obtain ⟨ty1, rfl, hk1⟩ := expectK_some _ _ _ _ hk
          obtain ⟨tlp, _, h0⟩ := Parses.token (hat.clearErr ctx) (k := .LParen) rfl
          have hg := Good.parses (ih.expr r e1 se _ hf f _ h0.at_ (by simp only [List.length_cons] at hfm; omega))
          obtain ⟨trp, h2⟩ := Parses.expect_token hg.at_ hk1
          have hin : Parses ctx (bracketedInner ctx (parseComparison ctx f)) { s with errBuf := [] } _ (j + 1) rest :=
            (h0.info (s := { s with errBuf := [] }) hat.ref).bind
              ((hg.expect (parser := inc (parseComparison ctx f))).bind ((h2 _).ret _))
          refine Good.alt2_left (Good.skip (pmap_err _ _ _ (intLit_fail ctx hat (fun _ _ _ e => by cases e; decide)))
            (Good.skip (pmap_err _ _ _ (variable_fail ctx hat f (head_ne (by decide)))) (Good.cons
              (Good.head hat ?_ hin.at_ (Nat.le_of_succ_le_succ (Nat.le_trans hg.le (h2 (.MissingClosing ')')).le))))))
          simp only [parseBracketed, (hin.info hat.ref).eq, Option.getD, relExpr, relInfo, mkInfo, hat.head.2.2.2]
        · cases hs
      · cases hs
    · -- variable
      split at hs
      · next v _ _ hv =>
        cases hs
        exact Good.alt2_left (Good.skip (pmap_err _ _ _ (intLit_fail ctx hat (fun _ _ _ e => by
          cases e; exact ⟨Kind.noConfusion, Kind.noConfusion, Kind.noConfusion⟩)))
          (Good.cons (Good.pmap Expr.var (ih.varAccess _ v _ _ hv (f + 1) s hat (by omega)))))
      · cases hs
    · -- integer literal
      split at hs
      · next l i _ hl =>
        cases hs
        exact Good.alt2_left (Good.cons (Good.pmap Expr.intLit (intLit_ok ctx hat hl)))
      · cases hs
  varAccess := by
    intro ts v sp rest hs fm s hat hfm
    obtain ⟨fm', rfl⟩ : ∃ f, fm = f + 1 := ⟨fm - 1, by omega⟩
    unfold Grammar.varAccess at hs
    split at hs
    · next i name r hid =>
      cases identTok_some _ _ _ _ hid
      obtain ⟨hN, _, _, hlead⟩ := hat.head
      have hi := ((ident_ok (hat.clearErr ctx)).pmap Var.named).info (s := s) hat.ref
      have hL : LoopAt ctx { s with pos := i + 1 } (Var.named (mkIdent (G ctx) i name)).info.range ⟨i, i⟩ s.pos r :=
        ⟨hi.at_, rfl, by simp only [Var.info, mkIdent, mkInfo, hlead], hlead, hat.ref, ⟨hN.le, Nat.le_refl _⟩⟩
      obtain ⟨accs, g1, g2, g3, g4, g5, g6⟩ := ih.accesses r _ _ v sp rest hs fm' (loopFuel ctx) { s with pos := i + 1 }
        s.pos { range := ⟨s.pos - s.refPos, i + 1 - s.refPos⟩, errors := [] } hL rfl (Nat.le_refl _)
        (by simp only [List.length_cons] at hfm; omega) (loopFuel_gt ctx hL.at_)
      have g5' : i ≤ sp.last := g5
      refine ⟨?_, g4 ▸ hN, g4 ▸ g5', g3, g6⟩
      simp only [parseVariable, affected, hi.eq, g1]
      simp only [relVar] at g2
      rw [g2]
    · cases hs
  accesses := by
    intro ts v sv vf sp rest hs fe lf s p0 vinfo hL hv1 hv2 hfe hlf
    obtain ⟨lf', rfl⟩ : ∃ f, lf = f + 1 := ⟨lf - 1, by omega⟩
    have hat := hL.at_
    unfold Grammar.accesses at hs
    split at hs
    · -- `[ index ]`
      next ib r =>
      simp only [List.length_cons] at hfe hlf
      split at hs
      · next e se r1 he =>
        split at hs
        · next j r2 hk =>
          obtain ⟨ty1, rfl, hk1⟩ := expectK_some _ _ _ _ hk
          obtain ⟨fe', rfl⟩ : ∃ f, fe = f + 1 := ⟨fe - 1, by omega⟩
          obtain ⟨tlb, _, h0⟩ := Parses.token (hat.clearErr ctx) (k := .LBracket) rfl
          -- the index expression, under its own reference
          have hg := ih.expr r e se _ he fe' _ (h0.at_.reref ctx) (by omega)
          have h1 := Good.ref h0.at_ (parseT := parseExpression ctx (fe' + 1)) (v := fun b => relExpr b e) hg
          obtain ⟨trb, h2⟩ := Parses.expect_token h1.at_ hk1
          have hin : Parses ctx (accessParser ctx (refParse (parseExpression ctx (fe' + 1)))) s _ (j + 1) r2 :=
            Parses.info (h0.bind (h1.expect.bind ((h2 _).ret _))) hat.ref
          have hib : s.pos ≤ ib := hat.head.1.le
          have hj : ib + 1 ≤ j + 1 := Nat.le_trans h1.le (h2 (.MissingClosing ']')).le
          have hlen : r2.length + 1 ≤ r.length := Good.length_le hg (h0.at_.reref ctx)
          have hL' : LoopAt ctx { s with pos := j + 1 }
              (Var.access v (.some e 0) (mkInfo (G ctx) sv.first j)).info.range ⟨sv.first, j⟩ p0 r2 :=
            ⟨hin.at_, rfl, by simp only [Var.info, mkInfo, hL.lead], hL.lead, hL.ref,
              ⟨hL.le.1, by have := hL.le.2; have := hL.pos; show sv.first ≤ j; omega⟩⟩
          have hpos := hL.pos
          obtain ⟨accs, g1, g2, g3, g4, g5, g6⟩ := ih.accesses r2 _ _ vf sp rest hs (fe' + 1) lf' { s with pos := j + 1 } p0
            vinfo hL' hv1 (Nat.le_trans hv2 (Nat.sub_le_sub_right (by show sv.last + 1 ≤ j + 1; omega) _))
            (by omega) (by omega)
          have g5' : j ≤ sp.last := g5
          refine ⟨_ :: accs, many0_cons hin.eq (by show j + 1 ≠ s.pos; omega) g1, ?_, g3, g4, by omega, g6⟩
          rw [List.foldl_cons, ← g2]
          congr 1
          have e1 : (s.pos - s.refPos).min (p0 - s.refPos) = p0 - s.refPos :=
            Nat.min_eq_right (Nat.sub_le_sub_right (by have := hL.le; omega) _)
          have e2 : (j + 1 - s.refPos).max vinfo.range.hi = j + 1 - s.refPos :=
            Nat.max_eq_left (Nat.le_trans hv2 (Nat.sub_le_sub_right (by omega) _))
          simp only [accessStep, OptExpr.ofOption, AstInfo.extendRange, relVar, relOptExpr, relInfo, mkInfo, hL.lead, hv1,
            e1, e2]
        · cases hs
      · cases hs
    · -- no further access
      next hne =>
      cases hs
      have hfail : IsErr (accessParser ctx (refParse (parseExpression ctx fe)) s) :=
        info_err _ s (bind_err _ _ _ (tagK_fail ctx (hat.clearErr ctx) .LBracket
          (fun i ty r e hk => hne i r (by rw [e, kind_plain rfl hk])))) hat.ref
      rw [st_eta s _ hL.pos]
      exact ⟨[], many0_nil hfail, rfl, hL.range, rfl, Nat.le_refl _, hat⟩

theorem conf_all : ∀ fs, Conf ctx fs
  | 0 => by
    constructor
    · intro ts e sp rest hs; cases hs
    · intro ts e sp rest hs; cases hs
    · intro ts l sl e sp rest hs; cases hs
    · intro ts e sp rest hs; cases hs
    · intro ts l sl e sp rest hs; cases hs
    · intro ts e sp rest hs; cases hs
    · intro ts v sp rest hs; cases hs
    · intro ts v sv vf sp rest hs; cases hs
  | fs + 1 => conf_succ ctx (conf_all fs)

/-- **Expressions: the parser builds the derivation the grammar mandates.**  Whenever the
    specification derives an expression from the token sequence at the current position (whatever
    its fuel), `Expression::parse` succeeds there, consumes exactly the expression's tokens, leaves
    the error buffer untouched and returns the specification's tree in the implementation's range
    convention. -/
theorem expression_conforms {fs : Nat} {ts rest : Toks} {e : Expr} {sp : Span} {s : St}
    (hs : expr (G ctx) fs ts = some (e, sp, rest)) (hat : At ctx s ts) :
    parseExpression ctx (exprFuel ctx) none s = .ok { s with pos := sp.last + 1 } (relExpr s.refPos e) ∧
    Next ctx.toks s.pos sp.first ∧ sp.first ≤ sp.last ∧ e.info.range = ⟨s.pos, sp.last + 1⟩ ∧
    At ctx { s with pos := sp.last + 1 } rest := by
  have hlen := hat.length_le ctx
  exact (conf_all ctx fs).expr ts e sp rest hs (8 * ctx.toks.size + 15) s hat (by omega)

end Spl.ParseConform
