/-
  Lemmas for C15: the positions `as_position` reports for the starts of the tokens of a text are
  strictly increasing in document order.
-/
import SplVerif.Lemmas.FoldPos
import SplVerif.Lemmas.Cursor

namespace Spl.SemOrder
open Spl Spl.Feat

def lexLt (p q : Pos) : Prop := p.line < q.line ∨ (p.line = q.line ∧ p.col < q.col)

/-- `FoldPos.asPosition_mono` with the two boundaries given by a decomposition of the text -/
theorem asPosition_lex_mono (a b c : List Char) :
    (asPosition (utf8Len a) (a ++ (b ++ c))).line < (asPosition (utf8Len (a ++ b)) (a ++ (b ++ c))).line ∨
    ((asPosition (utf8Len (a ++ b)) (a ++ (b ++ c))).line = (asPosition (utf8Len a) (a ++ (b ++ c))).line ∧
      (asPosition (utf8Len a) (a ++ (b ++ c))).col ≤ (asPosition (utf8Len (a ++ b)) (a ++ (b ++ c))).col) := by
  exact FoldPos.asPosition_mono ⟨a, b ++ c, rfl, rfl⟩ ⟨a ++ b, c, (List.append_assoc a b c).symm, rfl⟩
    (by rw [utf8Len_append]; exact Nat.le_add_right _ _)

/-- the position reported for the start of any token (the final `Eof` included) addresses that start -/
theorem start_roundtrip (text : List Char) (toks : List Token) (h : lex text = .ok toks) (t : Token) (ht : t ∈ toks) :
    insertionIndex (asPosition t.range.lo text) text = t.range.lo := by
  cases (lex_eq text).symm.trans h
  rcases List.mem_append.mp ht with h1 | h1
  · exact (CursorLemmas.start_addresses_token text _ h t h1).1
  · simp only [List.mem_singleton] at h1
    subst h1
    have := C08.position_roundtrip text [] (by simp)
    simpa [eofToken] using this

theorem tokens_strict (text : List Char) (toks : List Token) (h : lex text = .ok toks) :
    toks.Pairwise (fun x y => x.range.lo < y.range.lo) :=
  (FoldPos.tokens_layout text toks h).1.imp (fun hxy => Nat.lt_of_lt_of_le hxy.1 hxy.2)

/-- **Token starts are reported in strictly increasing document order.** -/
theorem starts_strict (text : List Char) (toks : List Token) (h : lex text = .ok toks) (x y : Token)
    (hx : x ∈ toks) (hy : y ∈ toks) (hlt : x.range.lo < y.range.lo) :
    lexLt (asPosition x.range.lo text) (asPosition y.range.lo text) := by
  rcases FoldPos.asPosition_mono (FoldPos.token_bounds_are_cuts h hx).1
    (FoldPos.token_bounds_are_cuts h hy).1 (Nat.le_of_lt hlt) with hl | ⟨hl, hc⟩
  · exact .inl hl
  · refine .inr ⟨hl.symm, Nat.lt_of_le_of_ne hc fun hcc => ?_⟩
    -- the same position would be reported for both starts, and lead back to both
    have r1 := start_roundtrip text toks h x hx
    rw [show asPosition x.range.lo text = asPosition y.range.lo text from
        (Pos.mk.injEq ..).mpr ⟨hl.symm, hcc⟩,
      start_roundtrip text toks h y hy] at r1
    omega

def lexLe (p q : Pos) : Prop := lexLt p q ∨ p = q

theorem lexLe_zero (q : Pos) : lexLe ⟨0, 0⟩ q := by
  obtain ⟨l, c⟩ := q
  unfold lexLe lexLt
  rcases Nat.eq_zero_or_pos l with rfl | hl
  · rcases Nat.eq_zero_or_pos c with rfl | hc
    · exact Or.inr rfl
    · exact Or.inl (Or.inr ⟨rfl, hc⟩)
  · exact Or.inl (Or.inl hl)

theorem sliceText_token (text : List Char) (toks : List Token) (h : lex text = .ok toks) (t : Token) (ht : t ∈ toks) :
    ∃ s, sliceText text t.range = some s := by
  obtain ⟨a, w, b, rfl, h1, h2⟩ := FoldPos.token_cut h ht
  exact ⟨w, by simp only [sliceText, h1, h2, splitAtByte_append, Nat.add_sub_cancel_left]⟩

end Spl.SemOrder
