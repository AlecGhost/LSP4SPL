/-
  C09 for expressions: the text the formatter prints for an expression that the grammar specification derives
  from a comment-free token sequence tokenises back into exactly the types of the tokens the expression was
  derived from — whatever delimiter follows it.
-/
import SplVerif.Lemmas.FmtLex
import SplVerif.Model.Format
import SplVerif.Spec.Grammar

namespace Spl.FmtExpr
open Spl Spl.Grammar Spl.Fmt Spl.FmtLex Spl.Feat

/-- token types as a lexer produces them for lexically valid text: identifiers are words that are not keywords,
    numbers fit 32 bits, no error payloads, no unknown characters -/
def tokWF : TokenType → Bool
  | .Ident w =>
    match w with
    | c :: tl => LexSpec.letter c && tl.all LexSpec.wordChar && (LexSpec.keywords.find? (fun kw => kw.1 == w)).isNone
    | [] => false
  | .Int (.Int n) => decide (n < 4294967296)
  | .Int (.Err _) => false
  | .Hex (.Int n) => decide (n < 4294967296)
  | .Hex (.Err _) => false
  | .Unknown _ => false
  | _ => true

def NoNL (s : List Char) : Prop := ∀ c ∈ s, c ≠ '\n'

theorem noNL_append {a b : List Char} (ha : NoNL a) (hb : NoNL b) : NoNL (a ++ b) := by
  intro c hc
  rcases List.mem_append.mp hc with h | h
  · exact ha c h
  · exact hb c h

theorem noNL_of_all (s : List Char) (f : Char → Bool) (hf : f '\n' = false) (h : ∀ c ∈ s, f c = true) : NoNL s := by
  intro c hc e
  subst e
  have := h _ hc
  rw [hf] at this
  cases this

def noNLb (s : List Char) : Bool := s.all (fun x => x != '\n')
theorem noNL_of_b {s : List Char} (h : noNLb s = true) : NoNL s := by
  intro x hx e
  simp only [noNLb, List.all_eq_true] at h
  have := h x hx
  subst e
  simp at this

/-- a piece without line break -/
def Inline (C : List Char → Prop) (s : List Char) (tys : List TokenType) : Prop := P C s tys ∧ NoNL s

theorem Inline.lit {C s tys} (h : P C s tys) (hn : noNLb s = true) : Inline C s tys := ⟨h, noNL_of_b hn⟩

theorem Inline.any_del {s tys} (h : Inline (fun _ => True) s tys) : Inline Delim s tys := ⟨pany_pdel h.1, h.2⟩

theorem Inline.any_seq {C s1 t1 s2 t2} (h1 : Inline (fun _ => True) s1 t1) (h2 : Inline C s2 t2) :
    Inline C (s1 ++ s2) (t1 ++ t2) := ⟨pany_seq h1.1 h2.1, noNL_append h1.2 h2.2⟩

theorem Inline.del_seq {C s1 t1 s2 t2} (h1 : Inline Delim s1 t1) (hs : StartsDelim s2) (h2 : Inline C s2 t2) :
    Inline C (s1 ++ s2) (t1 ++ t2) := ⟨pdel_seq h1.1 hs h2.1, noNL_append h1.2 h2.2⟩

/-- every keyword of the specification's table, printed as it is spelled -/
theorem keyword_inline {w : List Char} {ty : TokenType} (h : (w, ty) ∈ LexSpec.keywords) : Inline Delim w [ty] := by
  -- the table in character-list form: the kernel need not decode string literals
  have tbl : (Conform.kwAlts.filterMap Conform.kwEntry).all (fun e =>
      (Conform.kwAlts.filterMap Conform.kwEntry).find? (·.1 == e.1) == some e &&
      e.1.head?.any LexSpec.letter && e.1.all LexSpec.wordChar) = true := by decide +kernel
  rw [Conform.keywords_eq] at h
  have := List.all_eq_true.mp tbl _ h
  simp only [Bool.and_eq_true, beq_iff_eq, Option.any_eq_true, List.all_eq_true] at this
  obtain ⟨⟨hf, c, hc, hl⟩, hall⟩ := this
  cases w with
  | nil => cases hc
  | cons c' tl =>
    cases hc
    have hp := p_word c tl hl fun x hx => hall x (List.mem_cons_of_mem _ hx)
    rw [wordTy, Conform.keywords_eq, hf] at hp
    exact ⟨hp, noNL_of_all _ LexSpec.wordChar rfl hall⟩

theorem mapM_cons_ok {α β ε} {f : α → Except ε β} {x : α} {xs : List α} {a : β} {as : List β}
    (h1 : f x = .ok a) (h2 : xs.mapM f = .ok as) : (x :: xs).mapM f = .ok (a :: as) := by
  rw [List.mapM_cons, h1, h2]; rfl

/-- number and character literals are printed as `displayToken` spells them -/
theorem lit_display {ty : TokenType} (hwf : tokWF ty = true) (hk : ty.kind = .Int ∨ ty.kind = .Hex ∨ ty.kind = .Char) :
    Inline Delim (Parse.displayToken ty) [ty] ∧ Parse.displayToken ty ≠ [] := by
  -- as a Boolean, the hypothesis evaluates to `false` for the constructors without a literal
  replace hk : (ty.kind == .Int || (ty.kind == .Hex || ty.kind == .Char)) = true := by simpa using hk
  cases ty with
  | Int r =>
    cases r with
    | Err e => cases hwf
    | Int n =>
      obtain ⟨h1, h2, h3⟩ := natDigits_facts n
      have hp := p_decimal _ h1 h2 (h3.symm ▸ of_decide_eq_true hwf)
      rw [h3] at hp
      exact ⟨⟨hp, noNL_of_all _ LexSpec.digit rfl h2⟩, h1⟩
  | Hex r =>
    cases r with
    | Err e => cases hwf
    | Int n =>
      obtain ⟨hs, e, h1, h2, h3⟩ := fmtHex_facts n (of_decide_eq_true hwf)
      have hp := p_hex hs h1 h2 (h3.symm ▸ of_decide_eq_true hwf)
      rw [h3] at hp
      rw [show Parse.displayToken (.Hex (.Int n)) = ['0', 'x'] ++ hs from e]
      exact ⟨⟨hp, noNL_append (noNL_of_b rfl) (noNL_of_all _ LexSpec.hexdigit rfl h2)⟩, List.cons_ne_nil _ _⟩
  | Char ch =>
    refine ⟨⟨pany_pdel (p_char ch), ?_⟩, ?_⟩
    · rw [Parse.displayToken]
      split
      · exact noNL_of_b rfl
      · rename_i hn
        exact noNL_of_b (by simpa [noNLb] using hn)
    · rw [Parse.displayToken]
      split <;> exact List.cons_ne_nil _ _
  | _ => cases hk

structure Ctx where
  g : GCtx
  nc : ∀ (i : Nat) (t : Token), g.all[i]? = some t → t.kind ≠ Kind.Comment
  wf : ∀ (i : Nat) (t : Token), g.all[i]? = some t → tokWF t.ty = true

variable (c : Ctx)

/-- the specification's token list is the part of the array that starts at index `st` -/
def Al : Nat → Toks → Prop
  | _, [] => True
  | st, t :: r => t.idx = st ∧ (∃ tk, c.g.all[st]? = some tk ∧ tk.ty = t.ty) ∧ Al (st + 1) r

theorem leadStart_nc : ∀ (fuel i : Nat), leadStart c.g fuel i = i
  | 0, i => rfl
  | fuel + 1, i => by
    simp only [leadStart]
    by_cases h0 : i = 0
    · simp [h0]
    · have : (i == 0) = false := by simpa using h0
      simp only [this, Bool.false_eq_true, if_false]
      cases h : c.g.all[i - 1]? with
      | none => rfl
      | some t =>
        have := c.nc _ _ h
        have hk : (t.kind == Kind.Comment) = false := by simpa using this
        simp [hk]

theorem lead_nc (i : Nat) : lead c.g i = i := leadStart_nc c _ _

theorem mkInfo_nc (a b : Nat) : mkInfo c.g a b = { range := ⟨a, b + 1⟩ } := by simp [mkInfo, lead_nc]

theorem mkInfo_lo (a b : Nat) : (mkInfo c.g a b).range.lo = a := by rw [mkInfo_nc]

/-- types of the tokens `a … b-1` -/
def tysOf (a b : Nat) : List TokenType := ((c.g.all.extract a b).toList).map (·.ty)

theorem tysOf_split (a b d : Nat) (h1 : a ≤ b) (h2 : b ≤ d) : tysOf c a d = tysOf c a b ++ tysOf c b d := by
  simp only [tysOf, ← List.map_append, ← Array.toList_append]
  congr 2
  rw [Array.extract_append_extract]
  simp [Nat.min_eq_left h1, Nat.max_eq_right h2]

theorem extract_one {A : Array Token} {i : Nat} {t : Token} (h : A[i]? = some t) : (A.extract i (i + 1)).toList = [t] := by
  obtain ⟨hi, e⟩ := Array.getElem?_eq_some_iff.mp h
  rw [Array.toList_extract, List.extract_eq_take_drop, List.drop_eq_getElem_cons (by simpa using hi)]
  simp [e]

theorem tysOf_one (i : Nat) (t : Token) (h : c.g.all[i]? = some t) : tysOf c i (i + 1) = [t.ty] := by
  rw [tysOf, extract_one h]; rfl

theorem tysOf_empty (i : Nat) : tysOf c i i = [] := by simp [tysOf]

def TokAt (i : Nat) (ty : TokenType) : Prop := ∃ tk, c.g.all[i]? = some tk ∧ tk.ty = ty

theorem TokAt.lt {c : Ctx} {i ty} (h : TokAt c i ty) : i < c.g.all.size := by
  obtain ⟨tk, htk, _⟩ := h
  exact (Array.getElem?_eq_some_iff.mp htk).1

theorem al_cons {st i : Nat} {ty : TokenType} {r : Toks} (h : Al c st (⟨i, ty⟩ :: r)) :
    i = st ∧ TokAt c st ty ∧ Al c (st + 1) r := h

theorem kind_plain {ty : TokenType} {k : Kind} {p : TokenType} (hp : k.plain = some p) (h : ty.kind = k) : ty = p := by
  subst h
  cases ty <;> first | exact Option.some.inj hp | cases hp

theorem al_kind {c : Ctx} {st i ty p k r} (h : Al c st (⟨i, ty⟩ :: r)) (hk : (ty.kind == k) = true)
    (hp : k.plain = some p) : i = st ∧ TokAt c st p ∧ Al c (st + 1) r := by
  obtain rfl : ty = p := kind_plain hp (beq_iff_eq.mp hk)
  exact h

theorem tysOf_cons {i b : Nat} {ty : TokenType} (h : TokAt c i ty) (hb : i < b) :
    tysOf c i b = ty :: tysOf c (i + 1) b := by
  obtain ⟨tk, htk, rfl⟩ := h
  rw [tysOf_split c i (i + 1) b (Nat.le_succ i) hb, tysOf_one c i tk htk]; rfl

/-- `Prints C s a b`: `s` is an inline piece for the tokens `a … b-1` -/
def Prints (C : List Char → Prop) (s : List Char) (a b : Nat) : Prop :=
  a ≤ b ∧ b ≤ c.g.all.size ∧ Inline C s (tysOf c a b)

theorem Prints.tok {c : Ctx} {C s i ty} (h : TokAt c i ty) (hs : Inline C s [ty]) : Prints c C s i (i + 1) := by
  refine ⟨Nat.le_succ i, h.lt, ?_⟩
  rw [tysOf_cons c h (Nat.lt_succ_self i), tysOf_empty]
  exact hs

theorem Prints.nil {c : Ctx} {C a} (h : a ≤ c.g.all.size) : Prints c C [] a a :=
  ⟨Nat.le_refl a, h, tysOf_empty c a ▸ ⟨p_nil C, nofun⟩⟩

theorem Prints.any_del {c : Ctx} {s a b} (h : Prints c (fun _ => True) s a b) : Prints c Delim s a b :=
  ⟨h.1, h.2.1, h.2.2.any_del⟩

theorem Prints.any_seq {c : Ctx} {C s1 s2 a b d} (h1 : Prints c (fun _ => True) s1 a b) (h2 : Prints c C s2 b d) :
    Prints c C (s1 ++ s2) a d :=
  ⟨Nat.le_trans h1.1 h2.1, h2.2.1, tysOf_split c a b d h1.1 h2.1 ▸ h1.2.2.any_seq h2.2.2⟩

theorem Prints.del_seq {c : Ctx} {C s1 s2 a b d} (h1 : Prints c Delim s1 a b) (hs : StartsDelim s2)
    (h2 : Prints c C s2 b d) : Prints c C (s1 ++ s2) a d :=
  ⟨Nat.le_trans h1.1 h2.1, h2.2.1, tysOf_split c a b d h1.1 h2.1 ▸ h1.2.2.del_seq hs h2.2.2⟩

theorem Prints.sym {c : Ctx} {s i ty} (h : TokAt c i ty) (hp : PAny s [ty]) (hn : noNLb s = true) :
    Prints c (fun _ => True) s i (i + 1) := Prints.tok h (Inline.lit hp hn)

theorem Prints.del_cons {c : Ctx} {C s1 x s2 a b d} (h1 : Prints c Delim s1 a b) (h2 : Prints c C (x :: s2) b d)
    (hx : delimChar x = true) : Prints c C (s1 ++ x :: s2) a d := h1.del_seq ⟨x, s2, rfl, hx⟩ h2

/-- a slice `&tokens[lo..]` of the whole array -/
structure SOK (S : Slice) : Prop where
  toks : S.toks = c.g.all
  hi : S.hi = c.g.all.size
  le : S.lo ≤ S.hi

theorem from_ok {S : Slice} (h : SOK c S) (a : Nat) (ha : S.lo + a ≤ c.g.all.size) :
    ∃ S', from' S a = .ok S' ∧ SOK c S' ∧ S'.lo = S.lo + a := by
  have : S.lo + a ≤ S.hi := by rw [h.hi]; exact ha
  refine ⟨⟨S.toks, S.lo + a, S.hi⟩, by simp [from', Slice.from, this], ⟨h.toks, h.hi, this⟩, rfl⟩

theorem from_ref {c : Ctx} {S : Slice} (h : SOK c S) {a : Nat} (h1 : S.lo ≤ a) (h2 : a ≤ c.g.all.size) :
    ∃ S', from' S (a - S.lo) = .ok S' ∧ SOK c S' ∧ S'.lo = a := by
  obtain ⟨S', e, hS', hlo⟩ := from_ok c h (a - S.lo) (by omega)
  exact ⟨S', e, hS', by omega⟩

theorem sub_abs {S : Slice} (h : SOK c S) {a b : Nat} (ha : S.lo ≤ a) (hab : a ≤ b) (hb : b ≤ c.g.all.size) :
    ∃ S', sub S ⟨a - S.lo, b - S.lo⟩ = .ok S' ∧ S'.toList = (c.g.all.extract a b).toList := by
  have h1 : a - S.lo ≤ b - S.lo := by omega
  have h2 : S.lo + (b - S.lo) ≤ S.hi := by rw [h.hi]; omega
  refine ⟨⟨S.toks, S.lo + (a - S.lo), S.lo + (b - S.lo)⟩, by simp [sub, Slice.sub, h1, h2], ?_⟩
  rw [Slice.toList, h.toks, Nat.add_sub_cancel' ha, Nat.add_sub_cancel' (Nat.le_trans ha hab)]

theorem sub_one {S : Slice} (h : SOK c S) (i : Nat) (t : Token) (hi : S.lo ≤ i) (ht : c.g.all[i]? = some t) :
    ∃ S', sub S ⟨i - S.lo, i + 1 - S.lo⟩ = .ok S' ∧ S'.toList = [t] := by
  obtain ⟨S', e, hl⟩ := sub_abs c h hi (Nat.le_succ i) (Array.getElem?_eq_some_iff.mp ht).1
  exact ⟨S', e, hl.trans (extract_one ht)⟩

/-- The formatter prints the (relativised) expression from every enclosing slice, and the printed text is a piece
    for the types of the expression's own tokens. -/
def EGood (e : Expr) (sp : Span) : Prop :=
  sp.first ≤ sp.last ∧ sp.last < c.g.all.size ∧ e.info.range.lo = sp.first ∧
  ∀ S : Slice, SOK c S → S.lo ≤ sp.first →
    ∃ s, fmtExpr S (relExpr S.lo e) = .ok s ∧ PDel s (tysOf c sp.first (sp.last + 1)) ∧ NoNL s ∧ s ≠ []

def VGood (v : Var) (sp : Span) : Prop :=
  sp.first ≤ sp.last ∧ sp.last < c.g.all.size ∧ v.info.range.lo = sp.first ∧
  ∀ S : Slice, SOK c S → S.lo ≤ sp.first →
    ∃ s, fmtVar S (relVar S.lo v) = .ok s ∧ PDel s (tysOf c sp.first (sp.last + 1)) ∧ NoNL s ∧ s ≠ []

/-- the common shape of `EGood` and `VGood` -/
def Good (lo : Nat) (f : Slice → R) (sp : Span) : Prop :=
  sp.first ≤ sp.last ∧ sp.last < c.g.all.size ∧ lo = sp.first ∧
  ∀ S : Slice, SOK c S → S.lo ≤ sp.first →
    ∃ s, f S = .ok s ∧ PDel s (tysOf c sp.first (sp.last + 1)) ∧ NoNL s ∧ s ≠ []

variable {c}

theorem Good.prints {lo f sp} (h : Good c lo f sp) {S} (hS : SOK c S) (hlo : S.lo ≤ sp.first) :
    ∃ s, f S = .ok s ∧ Prints c Delim s sp.first (sp.last + 1) ∧ s ≠ [] := by
  obtain ⟨s, e, p, n, ne⟩ := h.2.2.2 S hS hlo
  exact ⟨s, e, ⟨Nat.le_succ_of_le h.1, h.2.1, p, n⟩, ne⟩

theorem Good.intro {lo f} {a b : Nat} (h1 : a ≤ b) (h2 : b < c.g.all.size) (h3 : lo = a)
    (h : ∀ S, SOK c S → S.lo ≤ a → ∃ s, f S = .ok s ∧ Prints c Delim s a (b + 1) ∧ s ≠ []) : Good c lo f ⟨a, b⟩ :=
  ⟨h1, h2, h3, fun S hS hlo => let ⟨s, e, p, ne⟩ := h S hS hlo; ⟨s, e, p.2.2.1, p.2.2.2, ne⟩⟩

theorem Good.ref {lo f sp} (h : Good c lo f sp) {S} (hS : SOK c S) (hlo : S.lo ≤ sp.first) :
    ∃ S', from' S (lo - S.lo) = .ok S' ∧ S'.lo = lo ∧
      ∃ s, f S' = .ok s ∧ Prints c Delim s sp.first (sp.last + 1) ∧ s ≠ [] := by
  have h1 := h.1
  have h2 := h.2.1
  have h3 := h.2.2.1
  obtain ⟨S', e, hS', hlo'⟩ := from_ref hS (a := lo) (by omega) (by omega)
  exact ⟨S', e, hlo', h.prints hS' (by omega)⟩

theorem startsDelim_space (s : List Char) : StartsDelim (' ' :: s) := ⟨' ', s, rfl, by decide⟩

theorem op_piece (ty : TokenType) (op : Operator)
    (h : relop ty.kind = some op ∨ addop ty.kind = some op ∨ mulop ty.kind = some op) :
    Inline (fun _ => True) (' ' :: op.symbol ++ [' ']) [ty] := by
  have sp : ∀ {s : List Char} {t : TokenType}, PAny s [t] → PAny (' ' :: s) [t] := fun hs => pany_seq p_space hs
  have bl : ∀ {ch : Char} {t : TokenType}, PAny [ch] [t] → PAny [ch, ' '] [t] := fun hs => pany_seq hs p_space
  have fin : ∀ {k : Kind} {p : TokenType} {s : List Char}, ty.kind = k → k.plain = some p → PAny s [p] →
      noNLb s = true → Inline (fun _ => True) s [ty] := fun hk hp hs hn => kind_plain hp hk ▸ Inline.lit hs hn
  simp only [relop, addop, mulop] at h
  rcases h with h | h | h <;> split at h <;> cases h
  · exact fin ‹_› rfl (sp (bl p_eq)) rfl
  · exact fin ‹_› rfl (sp (bl p_neq)) rfl
  · exact fin ‹_› rfl (sp p_lt) rfl
  · exact fin ‹_› rfl (sp p_le) rfl
  · exact fin ‹_› rfl (sp p_gt) rfl
  · exact fin ‹_› rfl (sp p_ge) rfl
  · exact fin ‹_› rfl (sp (bl p_plus)) rfl
  · exact fin ‹_› rfl (sp (bl p_minus)) rfl
  · exact fin ‹_› rfl (sp (bl p_times)) rfl
  · exact fin ‹_› rfl (sp p_divide) rfl

variable (c)

theorem binary_good {op : Operator} {l rh : Expr} {sl sr : Span} {ty : TokenType}
    (hl : EGood c l sl) (ht : TokAt c (sl.last + 1) ty)
    (hop : relop ty.kind = some op ∨ addop ty.kind = some op ∨ mulop ty.kind = some op)
    (hr : EGood c rh sr) (hsr : sr.first = sl.last + 2) :
    EGood c (.binary op l rh (mkInfo c.g sl.first sr.last)) ⟨sl.first, sr.last⟩ := by
  have hl1 := hl.1
  have hr1 := hr.1
  refine Good.intro (by omega) hr.2.1 (mkInfo_lo c _ _) fun S hS hlo => ?_
  obtain ⟨ls, e1, p1, ne1⟩ := Good.prints hl hS hlo
  obtain ⟨rs, e2, p2, _⟩ := Good.prints hr hS (by omega)
  rw [hsr] at p2
  refine ⟨ls ++ ((' ' :: op.symbol ++ [' ']) ++ rs), by simp [relExpr, fmtExpr, e1, e2], ?_, by simp [ne1]⟩
  exact p1.del_cons ((Prints.tok ht (op_piece ty op hop)).any_seq p2) rfl

/-- what is proved of a specification function that derives a node from the tokens at `st` on -/
def Derives {α : Type} (G : α → Span → Prop) (f : Toks → Option (α × Span × Toks)) : Prop :=
  ∀ ts x sp rest st, f ts = some (x, sp, rest) → Al c st ts → G x sp ∧ sp.first = st ∧ Al c (sp.last + 1) rest

/-- … and of one that extends the node `l` by the tokens behind it -/
def Extends {α : Type} (G : α → Span → Prop) (f : α → Span → Toks → Option (α × Span × Toks)) : Prop :=
  ∀ ts l sl x sp rest, f l sl ts = some (x, sp, rest) → G l sl → Al c (sl.last + 1) ts →
    G x sp ∧ sp.first = sl.first ∧ Al c (sp.last + 1) rest

/-- conformance of the printed text for all expression functions of the specification at fuel `fs` -/
structure Conf (fs : Nat) : Prop where
  expr : ∀ ts e sp rest st, expr c.g fs ts = some (e, sp, rest) → Al c st ts →
    EGood c e sp ∧ sp.first = st ∧ Al c (sp.last + 1) rest
  add : ∀ ts e sp rest st, add c.g fs ts = some (e, sp, rest) → Al c st ts →
    EGood c e sp ∧ sp.first = st ∧ Al c (sp.last + 1) rest
  addRest : ∀ ts l sl e sp rest, addRest c.g fs l sl ts = some (e, sp, rest) → EGood c l sl → Al c (sl.last + 1) ts →
    EGood c e sp ∧ sp.first = sl.first ∧ Al c (sp.last + 1) rest
  mul : ∀ ts e sp rest st, mul c.g fs ts = some (e, sp, rest) → Al c st ts →
    EGood c e sp ∧ sp.first = st ∧ Al c (sp.last + 1) rest
  mulRest : ∀ ts l sl e sp rest, mulRest c.g fs l sl ts = some (e, sp, rest) → EGood c l sl → Al c (sl.last + 1) ts →
    EGood c e sp ∧ sp.first = sl.first ∧ Al c (sp.last + 1) rest
  factor : ∀ ts e sp rest st, factor c.g fs ts = some (e, sp, rest) → Al c st ts →
    EGood c e sp ∧ sp.first = st ∧ Al c (sp.last + 1) rest
  varAccess : ∀ ts v sp rest st, varAccess c.g fs ts = some (v, sp, rest) → Al c st ts →
    VGood c v sp ∧ sp.first = st ∧ Al c (sp.last + 1) rest
  accesses : ∀ ts v sv vf sp rest, accesses c.g fs v sv ts = some (vf, sp, rest) → VGood c v sv → Al c (sv.last + 1) ts →
    VGood c vf sp ∧ sp.first = sv.first ∧ Al c (sp.last + 1) rest

/-- an operand, then what extends it -/
theorem seq_conf {operand f : Toks → Option (Expr × Span × Toks)}
    {rest : Expr → Span → Toks → Option (Expr × Span × Toks)}
    (hf : ∀ ts, f ts =
      match operand ts with
      | none => none
      | some (l, sl, r) => rest l sl r)
    (h1 : Derives c (EGood c) operand) (h2 : Extends c (EGood c) rest) : Derives c (EGood c) f := by
  intro ts e sp r st hs hal
  rw [hf] at hs
  split at hs
  · cases hs
  · rename_i l sl r1 ha
    obtain ⟨gl, fl, al⟩ := h1 ts l sl r1 st ha hal
    obtain ⟨g2, f2, a2⟩ := h2 r1 l sl e sp r hs gl al
    exact ⟨g2, f2.trans fl, a2⟩

/-- an operator of the class `opOf`, a right operand, and what extends the binary expression; or nothing -/
theorem step_conf {opOf : Kind → Option Operator}
    (hopOf : ∀ k op, opOf k = some op → relop k = some op ∨ addop k = some op ∨ mulop k = some op)
    {operand : Toks → Option (Expr × Span × Toks)} {rest f : Expr → Span → Toks → Option (Expr × Span × Toks)}
    (hf : ∀ l sl ts, f l sl ts =
      match ts with
      | t :: r1 =>
        match opOf t.ty.kind with
        | some op =>
          match operand r1 with
          | some (rh, sr, r2) => rest (.binary op l rh (mkInfo c.g sl.first sr.last)) ⟨sl.first, sr.last⟩ r2
          | none => none
        | none => some (l, sl, ts)
      | [] => some (l, sl, ts))
    (h1 : Derives c (EGood c) operand) (h2 : Extends c (EGood c) rest) : Extends c (EGood c) f := by
  intro ts l sl e sp r hs gl al
  rw [hf] at hs
  split at hs
  · rename_i t r1
    split at hs
    · rename_i op hop
      split at hs
      · rename_i rh sr r2 hr
        obtain ⟨gr, fr, ar⟩ := h1 r1 rh sr r2 _ hr al.2.2
        -- not `exact h2 …`: the expected `sp.first = sl.first` would be unified with `rest`'s span argument first
        have h := h2 r2 _ _ e sp r hs (binary_good c gl al.2.1 (hopOf _ _ hop) gr fr) ar
        exact h
      · cases hs
    · cases hs
      exact ⟨gl, rfl, al⟩
  · cases hs
    exact ⟨gl, rfl, al⟩

theorem expectK_al {k : Kind} {p : TokenType} (hp : k.plain = some p) {ts r : Toks} {j st : Nat}
    (h : expectK k ts = some (j, r)) (hal : Al c st ts) :
    j = st ∧ (∃ tk, c.g.all[st]? = some tk ∧ tk.ty = p) ∧ Al c (st + 1) r := by
  unfold expectK at h
  split at h
  · split at h
    · rename_i hk
      cases h
      exact al_kind hal hk hp
    · cases h
  · cases h

theorem unary_good {e : Expr} {se : Span} {i : Nat} (ht : TokAt c i .Minus) (he : EGood c e se)
    (hse : se.first = i + 1) : EGood c (.unary .Sub e (mkInfo c.g i se.last)) ⟨i, se.last⟩ := by
  have he1 := he.1
  refine Good.intro (by omega) he.2.1 (mkInfo_lo c _ _) fun S hS hlo => ?_
  obtain ⟨rs, e2, p2, _⟩ := Good.prints he hS (by omega)
  rw [hse] at p2
  refine ⟨['-'] ++ rs, by simp [relExpr, fmtExpr, e2, Operator.symbol, Except.map], ?_, by simp⟩
  exact (Prints.sym ht p_minus rfl).any_seq p2

theorem bracketed_good {e : Expr} {se : Span} {i : Nat} (ht : TokAt c i .LParen) (he : EGood c e se)
    (hse : se.first = i + 1) (ht2 : TokAt c (se.last + 1) .RParen) :
    EGood c (.bracketed e (mkInfo c.g i (se.last + 1))) ⟨i, se.last + 1⟩ := by
  have he1 := he.1
  refine Good.intro (by omega) ht2.lt (mkInfo_lo c _ _) fun S hS hlo => ?_
  obtain ⟨rs, e2, p2, _⟩ := Good.prints he hS (by omega)
  rw [hse] at p2
  refine ⟨['('] ++ (rs ++ [')']), by simp [relExpr, fmtExpr, e2, Except.map], ?_, by simp⟩
  exact ((Prints.sym ht p_lparen rfl).any_seq (p2.del_cons (Prints.sym ht2 p_rparen rfl) rfl)).any_del

theorem intLitTok_some {g : GCtx} {ts r : Toks} {l : IntLiteral} {i : Nat} (h : intLitTok g ts = some (l, i, r)) :
    ∃ ty, ts = ⟨i, ty⟩ :: r ∧ l.info = mkInfo g i i ∧ (ty.kind = .Int ∨ ty.kind = .Hex ∨ ty.kind = .Char) := by
  unfold intLitTok at h
  split at h
  · cases h; exact ⟨_, rfl, rfl, Or.inl rfl⟩
  · cases h; exact ⟨_, rfl, rfl, Or.inr (Or.inl rfl)⟩
  · split at h
    · cases h; exact ⟨_, rfl, rfl, Or.inr (Or.inr rfl)⟩
    · cases h
  · cases h

theorem lit_good {i : Nat} {ty : TokenType} {l : IntLiteral} (ht : TokAt c i ty) (hl : l.info = mkInfo c.g i i)
    (hk : ty.kind = .Int ∨ ty.kind = .Hex ∨ ty.kind = .Char) : EGood c (.intLit l) ⟨i, i⟩ := by
  refine Good.intro (Nat.le_refl _) ht.lt (by rw [Expr.info, hl, mkInfo_lo]) fun S hS hlo => ?_
  obtain ⟨tk, htk, rfl⟩ := ht
  obtain ⟨S', es, el⟩ := sub_one c hS i tk hlo htk
  obtain ⟨pd, ne⟩ := lit_display (c.wf i tk htk) hk
  have hfind : [tk].find? (fun t => t.kind == .Int || t.kind == .Hex || t.kind == .Char) = some tk :=
    List.find?_cons_of_pos (by simp only [Token.kind]; rcases hk with h | h | h <;> simp [h])
  refine ⟨Parse.displayToken tk.ty, ?_, Prints.tok ⟨tk, htk, rfl⟩ pd, ne⟩
  simp only [relExpr, relIntLit, hl, relInfo, mkInfo_nc, fmtExpr, fmtIntLit, es, el, hfind]

theorem factor_conf {fs : Nat} (ih : Conf c fs) : Derives c (EGood c) (factor c.g (fs + 1)) := by
  intro ts e sp rest st hs hal
  rw [Grammar.factor.eq_def] at hs
  dsimp only at hs
  split at hs
  · rename_i i r
    obtain ⟨rfl, ht, al1⟩ := hal
    split at hs
    · rename_i e1 se r1 hf
      cases hs
      obtain ⟨ge, fe, ae⟩ := ih.factor _ _ _ _ _ hf al1
      exact ⟨unary_good c ht ge fe, rfl, ae⟩
    · cases hs
  · rename_i i r
    obtain ⟨rfl, ht, al1⟩ := hal
    split at hs
    · rename_i e1 se r1 hf
      obtain ⟨ge, fe, ae⟩ := ih.expr r e1 se r1 _ hf al1
      split at hs
      · rename_i j r2 hx
        cases hs
        obtain ⟨rfl, ht2, a2⟩ := expectK_al c (p := .RParen) rfl hx ae
        exact ⟨bracketed_good c ht ge fe ht2, rfl, a2⟩
      · cases hs
    · cases hs
  · split at hs
    · rename_i v sv r hv
      cases hs
      obtain ⟨gv, fv, av⟩ := ih.varAccess _ _ _ _ st hv hal
      exact ⟨⟨gv.1, gv.2.1, gv.2.2.1, fun S hS hlo => by simpa only [relExpr, fmtExpr] using gv.2.2.2 S hS hlo⟩, fv, av⟩
    · cases hs
  · split at hs
    · rename_i l i r hl
      cases hs
      obtain ⟨ty, rfl, hinfo, hk⟩ := intLitTok_some hl
      obtain ⟨rfl, ht, al1⟩ := hal
      exact ⟨lit_good c ht hinfo hk, rfl, al1⟩
    · cases hs

theorem ident_prints {i : Nat} {s : List Char} (ht : TokAt c i (.Ident s)) : Prints c Delim s i (i + 1) ∧ s ≠ [] := by
  obtain ⟨tk, htk, hty⟩ := ht
  have hwf := c.wf i tk htk
  rw [hty] at hwf
  cases s with
  | nil => cases hwf
  | cons ch tl =>
    simp only [tokWF, Bool.and_eq_true, List.all_eq_true, Option.isNone_iff_eq_none] at hwf
    have hp := p_word ch tl hwf.1.1 hwf.1.2
    rw [wordTy, hwf.2] at hp
    exact ⟨Prints.tok ⟨tk, htk, hty⟩ ⟨hp, noNL_of_all _ LexSpec.wordChar rfl (wordChar_cons hwf.1.1 hwf.1.2)⟩,
      List.cons_ne_nil _ _⟩

theorem access_good {v : Var} {sv : Span} {e : Expr} {se : Span} (off : Nat)
    (hv : VGood c v sv) (ht : TokAt c (sv.last + 1) .LBracket) (he : EGood c e se) (hse : se.first = sv.last + 2)
    (ht2 : TokAt c (se.last + 1) .RBracket) :
    VGood c (.access v (.some e off) (mkInfo c.g sv.first (se.last + 1))) ⟨sv.first, se.last + 1⟩ := by
  have hv1 := hv.1
  have he1 := he.1
  refine Good.intro (by omega) ht2.lt (mkInfo_lo c _ _) fun S hS hlo => ?_
  obtain ⟨vs, e1, p1, ne1⟩ := Good.prints hv hS hlo
  obtain ⟨S', ef, hlo', is, e2, p2, _⟩ := Good.ref he hS (by omega)
  rw [hlo'] at e2
  rw [hse] at p2
  refine ⟨vs ++ (['['] ++ (is ++ [']'])), ?_, ?_, by simp [ne1]⟩
  · simp only [relVar, relOptExpr, fmtVar, fmtOptExpr, ef, e2, e1, List.append_assoc]
  · exact p1.del_cons ((Prints.sym ht p_lbracket rfl).any_seq (p2.del_cons (Prints.sym ht2 p_rbracket rfl) rfl)).any_del rfl

theorem varAccess_conf {fs : Nat} (ih : Conf c fs) : Derives c (VGood c) (varAccess c.g (fs + 1)) := by
  intro ts v sp rest st hs hal
  rw [Grammar.varAccess.eq_def] at hs
  dsimp only at hs
  split at hs
  · rename_i i s r hi
    unfold identTok at hi
    split at hi
    · cases hi
      obtain ⟨rfl, ht, al1⟩ := al_cons c hal
      exact ih.accesses r _ ⟨_, _⟩ v sp rest hs (Good.intro (Nat.le_refl _) ht.lt (mkInfo_lo c _ _) fun S _ _ =>
        ⟨_, by simp [relVar, relIdent, mkIdent, fmtVar], ident_prints c ht⟩) al1
    · cases hi
  · cases hs

theorem accesses_conf {fs : Nat} (ih : Conf c fs) : Extends c (VGood c) (accesses c.g (fs + 1)) := by
  intro ts v sv vf sp rest hs gv hal
  rw [Grammar.accesses.eq_def] at hs
  dsimp only at hs
  split at hs
  · rename_i i r
    obtain ⟨_, ht, al1⟩ := hal
    split at hs
    · rename_i e1 se r1 hf
      obtain ⟨ge, fe, ae⟩ := ih.expr r e1 se r1 _ hf al1
      split at hs
      · rename_i j r2 hx
        obtain ⟨rfl, ht2, a2⟩ := expectK_al c (p := .RBracket) rfl hx ae
        have h := ih.accesses r2 _ _ vf sp rest hs (access_good c 0 gv ht ge fe ht2) a2
        exact h
      · cases hs
    · cases hs
  · cases hs
    exact ⟨gv, rfl, hal⟩

theorem conf_all : ∀ fs, Conf c fs := by
  intro fs
  induction fs with
  | zero =>
    -- without fuel every function of the specification returns `none`
    constructor <;> intros <;> contradiction
  | succ fs ih =>
    exact ⟨seq_conf c (fun _ => rfl) ih.add
        (step_conf c (rest := fun e sp r => some (e, sp, r)) (fun _ _ => Or.inl) (fun _ _ _ => rfl) ih.add
          fun _ _ _ _ _ _ hs gl al => by cases hs; exact ⟨gl, rfl, al⟩),
      seq_conf c (fun _ => rfl) ih.mul ih.addRest,
      step_conf c (fun _ _ h => Or.inr (Or.inl h)) (fun _ _ _ => rfl) ih.mul ih.addRest,
      seq_conf c (fun _ => rfl) ih.factor ih.mulRest,
      step_conf c (fun _ _ h => Or.inr (Or.inr h)) (fun _ _ _ => rfl) ih.factor ih.mulRest,
      factor_conf c ih, varAccess_conf c ih, accesses_conf c ih⟩

/-- **C09 for expressions.**  For every expression that the grammar specification derives (any fuel) from a
    comment-free sequence of well-formed tokens, the formatter prints — from every enclosing token slice — a text
    without line breaks which, in front of any delimiter and any tokenisable remainder, tokenises into exactly the
    types of the tokens the expression was derived from. -/
theorem expression_format_lexes {fs : Nat} {ts rest : Toks} {e : Expr} {sp : Span} {st : Nat}
    (hs : expr c.g fs ts = some (e, sp, rest)) (hal : Al c st ts) :
    EGood c e sp ∧ sp.first = st ∧ Al c (sp.last + 1) rest :=
  (conf_all c fs).expr ts e sp rest st hs hal

end Spl.FmtExpr
