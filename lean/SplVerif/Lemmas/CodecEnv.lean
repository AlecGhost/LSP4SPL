/-
  The concrete header-parser model `parseHeadersModel` reads its input left to right and stops at
  the first decisive byte: once its verdict is `complete` or `error`, bytes that arrive later do
  not change it.  With this the C19 theorems hold for the model that is differentially tested
  against `httparse`, without the `EnvOK` hypothesis.
-/
import SplVerif.Lemmas.Codec

namespace Spl.Codec

def LineRes.ext (x : Bytes) : LineRes → LineRes
  | .done rest => .done (rest ++ x)
  | .header n v rest => .header n v (rest ++ x)
  | .incomplete => .incomplete
  | .error => .error

/-- `A'` is what the verdict `A` becomes when `x` is appended to the input: a verdict that is
    not `incomplete` stands, with `x` added to the bytes it leaves over.  `parseLine` is built
    from conditionals, scans and `afterCr`, each of which passes this on (`ite_stable`,
    `scan_stable`, `afterCr_stable`). -/
def Stable (x : Bytes) (A A' : LineRes) : Prop := A ≠ .incomplete → A' = A.ext x

section
variable {x : Bytes}

theorem ite_stable {c : Prop} [Decidable c] {A A' B B' : LineRes}
    (hA : c → Stable x A A') (hB : ¬c → Stable x B B') :
    Stable x (if c then A else B) (if c then A' else B') := by
  by_cases hc : c
  · rw [if_pos hc, if_pos hc]; exact hA hc
  · rw [if_neg hc, if_neg hc]; exact hB hc

theorem scan_stable (p : UInt8 → Bool) (l : Bytes) {K K' : UInt8 → Bytes → LineRes}
    (hK : ∀ c r, (l ++ x).takeWhile p = l.takeWhile p → Stable x (K c r) (K' c (r ++ x))) :
    Stable x
      (match l.dropWhile p with
        | [] => .incomplete
        | c :: r => K c r)
      (match (l ++ x).dropWhile p with
        | [] => .incomplete
        | c :: r => K' c r) := by
  cases hd : l.dropWhile p with
  | nil => exact fun h => absurd rfl h
  | cons c r =>
    have hne : (l.takeWhile p).length ≠ l.length := by
      have := congrArg List.length (List.takeWhile_append_dropWhile (p := p) (l := l))
      rw [List.length_append, hd, List.length_cons] at this
      omega
    rw [List.dropWhile_append, hd]
    exact hK c r (by rw [List.takeWhile_append, if_neg hne])

theorem afterCr_stable (r : Bytes) (k k' : Bytes → LineRes) (hk : ∀ r', k' (r' ++ x) = (k r').ext x) :
    Stable x (afterCr r k) (afterCr (r ++ x) k') := by
  cases r with
  | nil => exact fun h => absurd rfl h
  | cons b r' =>
    rw [List.cons_append, afterCr, afterCr]
    exact ite_stable (fun _ _ => hk r') fun _ _ => rfl

theorem parseLine_stable (bs : Bytes) : Stable x (parseLine bs) (parseLine (bs ++ x)) := by
  cases bs with
  | nil => exact fun h => absurd rfl h
  | cons b r =>
    rw [List.cons_append, parseLine, parseLine]
    refine ite_stable (fun _ => afterCr_stable r _ _ fun _ => rfl) fun _ => ?_
    refine ite_stable (fun _ _ => rfl) fun _ => ?_
    refine ite_stable (fun _ _ => rfl) fun _ => ?_
    refine scan_stable isNameTok (b :: r) fun c r2 e => ?_
    rw [← List.cons_append, e]
    refine ite_stable (fun _ _ => rfl) fun _ => ?_
    refine scan_stable isSpTab r2 fun v r4 _ => ?_
    refine ite_stable (fun _ => ?_) fun _ => ?_
    · refine scan_stable isValueTok (v :: r4) fun e r6 e' => ?_
      rw [← List.cons_append, e']
      refine ite_stable (fun _ => afterCr_stable r6 _ _ fun _ => rfl) fun _ => ?_
      exact ite_stable (fun _ _ => rfl) fun _ _ => rfl
    · refine ite_stable (fun _ => afterCr_stable r4 _ _ fun _ => rfl) fun _ => ?_
      exact ite_stable (fun _ _ => rfl) fun _ _ => rfl

end

/-- `total` grows with the input, so that `total - rest.length`, the length of the header block,
    stays what it was. -/
theorem parseHeadersGo_append (x : Bytes) : ∀ (fuel : Nat) (bs : Bytes) (total : Nat) (hs : List (Bytes × Bytes))
    (fuel' : Nat), fuel ≤ fuel' → parseHeadersGo fuel bs total hs ≠ .incomplete →
    parseHeadersGo fuel' (bs ++ x) (total + x.length) hs = parseHeadersGo fuel bs total hs
  | 0, _, _, _, _, _, h => absurd rfl h
  | fuel + 1, bs, total, hs, f' + 1, hle, h => by
    have e := parseLine_stable (x := x) bs
    revert h e
    rw [parseHeadersGo, parseHeadersGo]
    cases parseLine bs with
    | incomplete => exact fun h => absurd rfl h
    | error => intro _ e; rw [e nofun]; rfl
    | done rest =>
      intro _ e
      rw [e nofun]
      show HRes.complete (total + x.length - (rest ++ x).length) _ = HRes.complete (total - rest.length) _
      rw [List.length_append, Nat.add_sub_add_right]
    | header n v rest =>
      intro h e
      rw [e nofun]
      revert h
      dsimp only [LineRes.ext]
      by_cases hlen : hs.length ≥ Gen.headerSlots
      · rw [if_pos hlen, if_pos hlen]; exact fun _ => rfl
      · rw [if_neg hlen, if_neg hlen]
        exact parseHeadersGo_append x fuel rest total ((n, v) :: hs) f' (by omega)

theorem parseHeadersModel_append (b x : Bytes) {r : HRes} (h : parseHeadersModel b = r)
    (hr : r ≠ .incomplete) : parseHeadersModel (b ++ x) = r := by
  subst h
  rw [parseHeadersModel, List.length_append]
  exact parseHeadersGo_append x _ b _ [] _ (by omega) hr

end Spl.Codec
