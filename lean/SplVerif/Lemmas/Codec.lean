/-
  Stability of `decode` under extension of the buffer and what it means for the `FramedRead`
  loop: the whole run equals draining the concatenation of all reads (C19).
-/
import SplVerif.Model.Codec

namespace Spl.Codec

/-- What the chunking theorem assumes about the header parser: its verdict on a buffer is
    final once it is `complete` or `error` (more bytes do not change it).  This holds for any
    parser that reads its input left to right and stops at the first decisive byte.  The theorems of this file
    take it as a hypothesis; `Lemmas/CodecEnv` and `C19.env_ok` prove it for the header-parser model that the
    correspondence run compares with `httparse::parse_headers`. -/
structure EnvOK {Msg} (env : Env Msg) : Prop where
  completeStable : ∀ b x s hs, env.parseHeaders b = .complete s hs →
    env.parseHeaders (b ++ x) = .complete s hs
  errorStable : ∀ b x, env.parseHeaders b = .error → env.parseHeaders (b ++ x) = .error

variable {Msg : Type} (env : Env Msg)

theorem decode_append (hok : EnvOK env) (b x : Bytes)
    (h : decode env b ≠ .needMore) : decode env (b ++ x) = decode env b := by
  revert h
  unfold decode
  by_cases hlen : b.length < Gen.codecMinLen
  · rw [if_pos hlen]; exact fun h => absurd rfl h
  rw [if_neg hlen, if_neg (by rw [List.length_append]; omega)]
  cases hp : env.parseHeaders b with
  | error => rw [hok.errorStable b x hp]; exact fun _ => rfl
  | incomplete => exact fun h => absurd rfl h
  | complete s hs =>
    rw [hok.completeStable b x s hs hp]
    dsimp only
    cases hs.find? (fun h => h.1 == headerNameBytes) with
    | none => exact fun _ => rfl
    | some hd =>
      dsimp only
      cases parseUsize hd.2 with
      | none => exact fun _ => rfl
      | some n =>
        dsimp only
        by_cases hb : b.length < s + n
        · rw [if_pos hb]; exact fun h => absurd rfl h
        · rw [if_neg hb, if_neg (by rw [List.length_append]; omega),
            List.drop_append_of_le_length (by omega),
            List.take_append_of_le_length (by rw [List.length_drop]; omega)]
          exact fun _ => rfl

theorem decode_frame_le (b : Bytes) (m : Msg) (k : Nat)
    (hd : decode env b = .frame m k) : k ≤ b.length := by
  unfold decode at hd
  repeat' split at hd
  all_goals cases hd
  omega

theorem drain_append (hok : EnvOK env) (x b : Bytes) :
    drain env (b ++ x) = match drain env b with
      | (ms, r, some t) => (ms, r ++ x, some t)
      | (ms, r, none) => (ms ++ (drain env (r ++ x)).1, (drain env (r ++ x)).2) := by
  fun_induction drain env b with
  | case1 b hd => rfl
  | case2 b hd => rw [drain, decode_append env hok b x (by rw [hd]; nofun), hd]
  | case3 b hd => rw [drain, decode_append env hok b x (by rw [hd]; nofun), hd]
  | case4 b m k hd hk r ih =>
    rw [drain, decode_append env hok b x (by rw [hd]; nofun), hd]
    simp only
    rw [dif_pos ⟨hk.1, by rw [List.length_append]; omega⟩, List.drop_append_of_le_length hk.2, ih]
    simp only [r]
    rcases drain env (List.drop k b) with ⟨ms, r', _ | t⟩ <;> rfl
  | case5 b m k hd hk =>
    rw [drain, decode_append env hok b x (by rw [hd]; nofun), hd]
    simp only
    rw [dif_neg fun h => hk ⟨h.1, decode_frame_le env b m k hd⟩]

/-- The whole `FramedRead` run equals draining the concatenation of all reads. -/
theorem feed_eq_finish (hok : EnvOK env) (cs : List Bytes) (buf : Bytes) :
    feed env cs buf = finish (drain env (buf ++ cs.flatten)) := by
  induction cs generalizing buf with
  | nil => rw [feed, List.flatten_nil, List.append_nil]
  | cons c cs ih =>
    rw [feed, List.flatten_cons, ← List.append_assoc, drain_append env hok cs.flatten]
    rcases drain env (buf ++ c) with ⟨ms, r, _ | t⟩
    · dsimp only
      rw [ih]
      rcases drain env (r ++ cs.flatten) with ⟨ms', r', _ | t'⟩ <;> rfl
    · rfl

end Spl.Codec
