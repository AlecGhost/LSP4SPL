/-
  Helper lemmas for C08: the step that both position walks of `document.rs` take over a
  character (`stepLC`, with its three cases), and the implementation's single-pass walk against
  the line-table specification.
-/
import SplVerif.Model.Doc
import SplVerif.Spec.LspPos

namespace Spl
open LspPos

theorem utf16Len_eq_units (c : Char) : utf16Len c = units c := by
  unfold utf16Len units
  split <;> split <;> omega

theorem splitAtByte_append (a b : List Char) : splitAtByte (a ++ b) (utf8Len a) = some (a, b) := by
  induction a with
  | nil => cases b <;> simp [splitAtByte]
  | cons c cs ih =>
    have hc := utf8Size_pos c
    obtain ⟨n, hn⟩ : ∃ n, c.utf8Size + utf8Len cs = n + 1 := ⟨c.utf8Size + utf8Len cs - 1, by omega⟩
    rw [utf8Len_cons, hn, List.cons_append]
    unfold splitAtByte
    have h1 : c.utf8Size ≤ n + 1 := by omega
    have h2 : n + 1 - c.utf8Size = utf8Len cs := by omega
    simp [h1, h2, ih]

/-- Line and column behind `ch` (followed by `rest`): the step that `as_position` and
    `get_insertion_index` both take over a character they do not stop at. -/
def stepLC (ch : Char) (rest : List Char) (l c : Nat) : Nat × Nat :=
  if ch == '\n' || (ch == '\r' && !isCrlf ch rest) then (l + 1, 0)
  else if !isCrlf ch rest then (l, c + utf16Len ch)
  else (l, c)

theorem asPositionGo_cons (ch : Char) (rest : List Char) (i idx l c : Nat) :
    asPositionGo (ch :: rest) i idx l c =
      if i == idx then ⟨l, c⟩
      else asPositionGo rest (i + ch.utf8Size) idx (stepLC ch rest l c).1 (stepLC ch rest l c).2 := by
  rw [asPositionGo, stepLC]
  cases i == idx
  · cases (ch == '\n' || (ch == '\r' && !isCrlf ch rest))
    · cases (!isCrlf ch rest) <;> rfl
    · rfl
  · rfl

theorem asPositionGo_cons_ne {ch : Char} {rest : List Char} {i idx : Nat} (h : i ≠ idx) (l c : Nat) :
    asPositionGo (ch :: rest) i idx l c =
      asPositionGo rest (i + ch.utf8Size) idx (stepLC ch rest l c).1 (stepLC ch rest l c).2 := by
  rw [asPositionGo_cons, if_neg (by simpa using h)]

theorem insertionIndexGo_cons (ch : Char) (rest : List Char) (i : Nat) (p : Pos) (l c : Nat) :
    insertionIndexGo (ch :: rest) i p l c =
      if l == p.line && (c ≥ p.col || ch == '\n' || ch == '\r') then i
      else insertionIndexGo rest (i + ch.utf8Size) p (stepLC ch rest l c).1 (stepLC ch rest l c).2 := by
  rw [insertionIndexGo, stepLC]
  cases (l == p.line && (decide (c ≥ p.col) || ch == '\n' || ch == '\r'))
  · cases (ch == '\n' || (ch == '\r' && !isCrlf ch rest))
    · cases (!isCrlf ch rest) <;> rfl
    · rfl
  · rfl

theorem utf16Len_pos (c : Char) : 1 ≤ utf16Len c := by unfold utf16Len; split <;> omega

theorem stepLC_cases (ch : Char) (rest : List Char) (l c : Nat) :
    (stepLC ch rest l c = (l + 1, 0) ∧ (ch = '\n' ∨ (ch = '\r' ∧ rest.head? ≠ some '\n'))) ∨
    (stepLC ch rest l c = (l, c + utf16Len ch) ∧ ch ≠ '\n' ∧ ch ≠ '\r') ∨
    (stepLC ch rest l c = (l, c) ∧ ch = '\r' ∧ rest.head? = some '\n') := by
  unfold stepLC isCrlf
  by_cases h1 : ch = '\n'
  · simp [h1]
  · by_cases h2 : ch = '\r'
    · rcases rest with _ | ⟨d, r⟩
      · simp [h2]
      · by_cases h3 : d = '\n' <;> simp [h2, h3]
    · simp [h1, h2]

theorem stepLC_mono (ch : Char) (rest : List Char) (l c : Nat) :
    l < (stepLC ch rest l c).1 ∨ ((stepLC ch rest l c).1 = l ∧ c ≤ (stepLC ch rest l c).2) := by
  rcases stepLC_cases ch rest l c with ⟨h, _⟩ | ⟨h, _⟩ | ⟨h, _⟩ <;> rw [h] <;> simp

/-- the columns the walk has still to go to reach `p` from line `l`, column `c`: on the line of `p` what is left of
    `p.col`, on an earlier line all of it -/
def remCol (p : Pos) (l c : Nat) : Nat := if l = p.line then p.col - c else p.col

theorem firstLine_other {ch : Char} {rest : List Char} (h1 : ch ≠ '\n') (h2 : ch ≠ '\r') :
    firstLine (ch :: rest) = (ch :: (firstLine rest).1, (firstLine rest).2.1, (firstLine rest).2.2) := by
  simp [firstLine, h1, h2]

theorem offset_other {ch : Char} {rest : List Char} (h1 : ch ≠ '\n') (h2 : ch ≠ '\r') (k col : Nat) :
    offset (k + 1) (ch :: rest) col = ch.utf8Size + offset (k + 1) rest col := by
  simp only [offset, firstLine_other h1 h2]
  rcases hfl : firstLine rest with ⟨a, e, r⟩
  cases r with
  | none => simp
  | some r => simp [Nat.add_assoc]

theorem utf8Size_nl : ('\n' : Char).utf8Size = 1 := by decide
theorem utf8Size_cr : ('\r' : Char).utf8Size = 1 := by decide

theorem offset_zero_col (t : List Char) : offset 0 t 0 = 0 := by
  unfold offset
  cases (firstLine t).1 <;> rfl

theorem offset_zero_eol {ch : Char} (h : ch = '\n' ∨ ch = '\r') (rest : List Char) (col : Nat) :
    offset 0 (ch :: rest) col = 0 := by
  rcases h with rfl | rfl
  · rfl
  · rcases rest with _ | ⟨d, r⟩
    · rfl
    · by_cases hd : d = '\n' <;> simp [offset, firstLine, hd, colOffset]

theorem offset_succ_eol {ch : Char} {rest : List Char}
    (h : ch = '\n' ∨ (ch = '\r' ∧ rest.head? ≠ some '\n')) (k col : Nat) :
    offset (k + 1) (ch :: rest) col = 1 + offset k rest col := by
  rcases h with rfl | ⟨rfl, h⟩
  · simp [offset, firstLine, utf8Size_nl]
  · rcases rest with _ | ⟨d, r⟩
    · simp [offset, firstLine, utf8Size_cr]
    · have hd : d ≠ '\n' := by simpa using h
      simp [offset, firstLine, hd, utf8Size_cr]

theorem offset_succ_crlf {rest : List Char} (h : rest.head? = some '\n') (k col : Nat) :
    offset (k + 1) ('\r' :: rest) col = 1 + offset (k + 1) rest col := by
  rcases rest with _ | ⟨d, r⟩
  · cases h
  · cases (by simpa using h : d = '\n')
    simp [offset, firstLine, utf8Size_nl, utf8Size_cr]
    omega

theorem offset_zero_other {ch : Char} {rest : List Char} (h1 : ch ≠ '\n') (h2 : ch ≠ '\r') (m : Nat) :
    offset 0 (ch :: rest) (m + 1) = ch.utf8Size + offset 0 rest (m + 1 - units ch) := by
  simp only [offset, firstLine_other h1 h2, colOffset]
/-- The walk of `get_insertion_index`, started in the middle (current line `l ≤ p.line`,
    current column `c`, byte index `i`), lands at `i` plus the specified offset of the remaining
    position inside the remaining text. -/
theorem insertionIndexGo_eq (t : List Char) : ∀ (i : Nat) (p : Pos) (l c : Nat), l ≤ p.line →
    insertionIndexGo t i p l c = i + offset (p.line - l) t (remCol p l c) := by
  induction t with
  | nil =>
    intro i p l c _
    cases p.line - l <;> rfl
  | cons ch rest ih =>
    intro i p l c hl
    rw [insertionIndexGo_cons]
    have hcases := stepLC_cases ch rest l c
    rcases Nat.eq_or_lt_of_le hl with rfl | hL
    · -- on the line of `p`: the walk stops at the column or at the end of the line
      rw [Nat.sub_self, remCol, if_pos rfl]
      by_cases hstop : c ≥ p.col ∨ ch = '\n' ∨ ch = '\r'
      · rw [if_pos (by simpa [or_assoc] using hstop)]
        rcases hstop with h | h
        · rw [Nat.sub_eq_zero_of_le h, offset_zero_col]
          rfl
        · rw [offset_zero_eol h]
          rfl
      · rw [if_neg (by simpa [or_assoc] using hstop)]
        rw [not_or, Nat.not_le] at hstop
        rcases hcases with ⟨_, h⟩ | ⟨h, h1, h2⟩ | ⟨_, h, _⟩
        · exact (hstop.2 (h.imp_right And.left)).elim
        · obtain ⟨m, hm⟩ : ∃ m, p.col - c = m + 1 := ⟨p.col - c - 1, by omega⟩
          rw [h, ih _ _ _ _ (Nat.le_refl _), Nat.sub_self, remCol, if_pos rfl, hm, offset_zero_other h1 h2,
            utf16Len_eq_units, Nat.add_assoc]
          congr 3
          omega
        · exact (hstop.2 (.inr h)).elim
    · -- on an earlier line: nothing stops the walk
      obtain ⟨k, hk⟩ : ∃ k, p.line - l = k + 1 := ⟨p.line - l - 1, by omega⟩
      have hne : l ≠ p.line := Nat.ne_of_lt hL
      rw [if_neg (by simp [hne]), remCol, if_neg hne, hk]
      rcases hcases with ⟨h, hterm⟩ | ⟨h, h1, h2⟩ | ⟨h, rfl, hhead⟩ <;> rw [h]
      · have hrc : remCol p (l + 1) 0 = p.col := by unfold remCol; split <;> rfl
        have hk' : p.line - (l + 1) = k := by omega
        rw [ih _ _ _ _ hL, hrc, hk', offset_succ_eol hterm]
        rcases hterm with rfl | ⟨rfl, _⟩
        · rw [utf8Size_nl]; omega
        · rw [utf8Size_cr]; omega
      · rw [ih _ _ _ _ hl, hk, remCol, if_neg hne, offset_other h1 h2]
        omega
      · rw [ih _ _ _ _ hl, hk, remCol, if_neg hne, offset_succ_crlf hhead, utf8Size_cr]
        omega

end Spl
