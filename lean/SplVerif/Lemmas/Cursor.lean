/-
  The token under the cursor (C08, last sentence; used by C12 and C15): looking up a byte index in the tokenisation
  finds the token whose range contains it, and the position the server reports for a token start leads back to
  that token.  For C03: whatever index `as_position` is asked for, it answers with a character boundary of the text.
-/
import SplVerif.Lemmas.FoldPos
import SplVerif.Model.Features

namespace Spl.CursorLemmas
open Spl Spl.Feat

theorem find_contains : ∀ (l : List Token), l.Pairwise (fun a b => a.range.hi ≤ b.range.lo) →
    ∀ t ∈ l, t.range.lo ≤ idx → idx < t.range.hi → l.find? (fun x => x.range.contains idx) = some t
  | [], _, t, ht, _, _ => nomatch ht
  | a :: l, hp, t, ht, h1, h2 => by
    rw [List.pairwise_cons] at hp
    rw [List.find?_cons, Range.contains]
    rcases List.mem_cons.mp ht with rfl | ht
    · rw [decide_eq_true h1, decide_eq_true h2]
      rfl
    · have := hp.1 t ht
      rw [decide_eq_false (by omega : ¬ idx < a.range.hi), Bool.and_false]
      exact find_contains l hp.2 t ht h1 h2

theorem token_start_not_nl {b : List Char} {off : Nat} {t : Token} {T : List Token} (h : lexL b off = t :: T)
    (hlo : t.range.lo = off) : b.head? ≠ some '\n' := by
  intro hb
  cases b with
  | nil => cases hb
  | cons c r =>
    cases Option.some.inj hb
    rw [lexL_space (by decide)] at h
    have := lexL_lo r _ t (h ▸ List.mem_cons_self)
    have := utf8Size_pos '\n'
    omega

theorem index_finds_token (text : List Char) (toks : List Token) (h : lex text = .ok toks) (t : Token)
    (ht : t ∈ lexL text 0) (idx : Nat) (h1 : t.range.lo ≤ idx) (h2 : idx < t.range.hi) :
    toks.find? (fun x => x.range.contains idx) = some t := by
  cases (lex_eq text).symm.trans h
  rw [List.find?_append, find_contains (lexL text 0) (lexL_sorted text 0) t ht h1 h2]
  rfl

/-- **A reported token start addresses that token.**  For every text and every token `t` of its tokenisation
    (other than the final `Eof`): the position the server reports for the start of `t` (`as_position`), sent back
    and converted by `get_insertion_index`, is the start of `t` again, and the token looked up there
    (`DocumentCursor::ident` searches the first token whose range contains the index) is `t` itself. -/
theorem start_addresses_token (text : List Char) (toks : List Token) (h : lex text = .ok toks) (t : Token)
    (ht : t ∈ lexL text 0) :
    insertionIndex (asPosition t.range.lo text) text = t.range.lo ∧
      toks.find? (fun x => x.range.contains (insertionIndex (asPosition t.range.lo text) text)) = some t := by
  obtain ⟨T1, T2, e⟩ := List.append_of_mem ht
  obtain ⟨a, b, s1, p1, l1⟩ := cut_at_start text 0 T1 t T2 e
  have hrt := C08.position_roundtrip a b fun hh => token_start_not_nl l1 rfl hh.2
  rw [show utf8Len a = t.range.lo by omega, ← s1] at hrt
  rw [hrt]
  exact ⟨rfl, index_finds_token text toks h t ht _ (Nat.le_refl _) (lexL_bounds text 0 t ht).1⟩

/-- whatever index is asked for, `as_position` answers with the position of a character boundary of the text (the
    index itself if it is one that the walk reaches, otherwise the end of the text) -/
theorem asPositionGo_boundary : ∀ (t : List Char) (i idx l c : Nat),
    ∃ a b, t = a ++ b ∧ asPositionGo t i idx l c = asPositionGo t i (i + utf8Len a) l c
  | [], i, idx, l, c => ⟨[], [], rfl, rfl⟩
  | ch :: rest, i, idx, l, c => by
    by_cases h : i = idx
    · exact ⟨[], ch :: rest, rfl, by rw [h]; rfl⟩
    · obtain ⟨a, b, e, he⟩ := asPositionGo_boundary rest (i + ch.utf8Size) idx
        (stepLC ch rest l c).1 (stepLC ch rest l c).2
      have hsz := utf8Size_pos ch
      refine ⟨ch :: a, b, by rw [e]; rfl, ?_⟩
      rw [asPositionGo_cons_ne h, he, asPositionGo_cons_ne (by simp only [utf8Len_cons]; omega),
        utf8Len_cons, Nat.add_assoc]

theorem asPosition_boundary (idx : Nat) (text : List Char) :
    ∃ a b, text = a ++ b ∧ asPosition idx text = asPosition (utf8Len a) text := by
  obtain ⟨a, b, e, h⟩ := asPositionGo_boundary text 0 idx 0 0
  exact ⟨a, b, e, by simpa [asPosition] using h⟩

end Spl.CursorLemmas
