/-
  Refinement of the three-process network (`Net.step` under an arbitrary scheduler) to the
  single-threaded reference `seqRun` (C20).

  `future s` is the output stream a state is committed to: what has been written, what sits in
  the channels and in the processes' hands, what the broker will produce for its queue, and what
  the sequential reference produces for the unread input — in the order a sequential completion
  would emit them.  Every step of every process preserves the two projections of `future` the
  property speaks about (document-related traffic; responses), given an invariant `Inv` about the
  one outstanding `GetInfo`.  `Step` lists the kinds of step with their successor states; the
  invariant, the projections and the termination measure are followed through by cases on it.
-/
import SplVerif.Model.Net

namespace Spl.Net

variable {Uri Text Chg Req Resp Diag : Type}

def BReq.isGet : BReq Uri Text Chg Req → Bool
  | .getInfo .. => true
  | _ => false

def NoGet (l : List (BReq Uri Text Chg Req)) : Prop := ∀ b ∈ l, b.isGet = false

theorem noGet_cons {b : BReq Uri Text Chg Req} {l : List (BReq Uri Text Chg Req)} (h : NoGet (b :: l)) :
    b.isGet = false ∧ NoGet l :=
  ⟨h b List.mem_cons_self, fun x hx => h x (List.mem_cons_of_mem _ hx)⟩

def brokerPend : Broker Uri Resp Diag → List (Out Uri Resp Diag)
  | .idle => []
  | .sendDiag o => [o]

section
variable [DecidableEq Uri] (f : Fns Uri Text Chg Req Resp Diag) (diagOn : Bool)
variable (docs : Docs Uri Text)

def readerFuture (input : List (CMsg Uri Text Chg Req Resp)) :
    Reader Uri Text Chg Req Resp Diag → List (Out Uri Resp Diag)
  | .idle => seqRun f diagOn docs input
  | .sendDoc b => (handleOut f diagOn docs b).2 ++ seqRun f diagOn (handleOut f diagOn docs b).1 input
  | .waitReply => seqRun f diagOn docs input
  | .sendIo o => o :: seqRun f diagOn docs input

def future (s : State Uri Text Chg Req Resp Diag) : List (Out Uri Resp Diag) :=
  s.out ++ (s.ioCh ++ (brokerPend s.broker ++ (optList s.reply ++
    ((runBroker f diagOn s.docs s.docCh).2 ++
      readerFuture f diagOn (runBroker f diagOn s.docs s.docCh).1 s.input s.reader))))

theorem runBroker_append (a b : List (BReq Uri Text Chg Req)) :
    runBroker f diagOn docs (a ++ b) =
      ((runBroker f diagOn (runBroker f diagOn docs a).1 b).1,
       (runBroker f diagOn docs a).2 ++ (runBroker f diagOn (runBroker f diagOn docs a).1 b).2) := by
  induction a generalizing docs with
  | nil => rfl
  | cons x xs ih => simp only [List.cons_append, runBroker, ih, List.append_assoc]

variable {f diagOn docs} in
theorem brokerHandle_cases {b : BReq Uri Text Chg Req} {d' dg rp}
    (h : brokerHandle f diagOn docs b = (d', dg, rp)) :
    (b.isGet = false ∧ rp = none ∧ ∀ o, dg = some o → o.isResp = false ∧ o.isDocRelated = true) ∨
    (b.isGet = true ∧ dg = none ∧ ∃ o, rp = some o ∧ o.isResp = true ∧ o.isDocRelated = true) := by
  have diag : ∀ u d (o : Out Uri Resp Diag), (if diagOn then some (Out.diag u d) else none) = some o →
      o.isResp = false ∧ o.isDocRelated = true := by
    intro u d o ho
    cases diagOn
    · cases ho
    · cases ho; exact ⟨rfl, rfl⟩
  cases b with
  | getInfo id u r => cases h; exact .inr ⟨rfl, rfl, _, rfl, rfl, rfl⟩
  | close u => cases h; exact .inl ⟨rfl, rfl, nofun⟩
  | «open» u t => cases h; exact .inl ⟨rfl, rfl, diag _ _⟩
  | change u c =>
    simp only [brokerHandle] at h
    split at h
    · cases h; exact .inl ⟨rfl, rfl, diag _ _⟩
    · cases h; exact .inl ⟨rfl, rfl, nofun⟩

theorem runBroker_noGet (l : List (BReq Uri Text Chg Req)) (h : NoGet l) :
    ∀ o ∈ (runBroker f diagOn docs l).2, o.isResp = false := by
  induction l generalizing docs with
  | nil => nofun
  | cons b bs ih =>
    intro o ho
    rcases hbh : brokerHandle f diagOn docs b with ⟨d', dg, rp⟩
    rw [runBroker, handleOut, hbh] at ho
    obtain ⟨-, rfl, hdg⟩ | ⟨hg, -⟩ := brokerHandle_cases hbh
    · obtain ho | ho := List.mem_append.1 ho
      · cases dg with
        | none => cases ho
        | some o' => cases List.mem_singleton.1 ho; exact (hdg _ rfl).1
      · exact ih _ (noGet_cons h).2 o ho
    · cases (noGet_cons h).1.symm.trans hg

end

theorem filter_eq_self_of_all_true {α} (p : α → Bool) (l : List α) (h : ∀ x ∈ l, p x = true) :
    l.filter p = l :=
  List.filter_eq_self.2 h

/-- At most one `GetInfo` is outstanding, and the reader is waiting for exactly that one. -/
structure Inv (s : State Uri Text Chg Req Resp Diag) : Prop where
  brokerDiag : ∀ o, s.broker = .sendDiag o → o.isResp = false ∧ o.isDocRelated = true
  replyWait : ∀ o, s.reply = some o →
    s.reader = .waitReply ∧ s.docCh = [] ∧ s.broker = .idle ∧ o.isDocRelated = true ∧ o.isResp = true
  waitGet : s.reader = .waitReply → s.reply = none →
    ∃ pre b, s.docCh = pre ++ [b] ∧ NoGet pre ∧ b.isGet = true
  notWait : s.reader ≠ .waitReply → NoGet s.docCh
  sendIo : ∀ o, s.reader = .sendIo o →
    o.isResp = true ∧ (o.isDocRelated = true → s.docCh = [] ∧ s.broker = .idle)

def Agree (a b : List (Out Uri Resp Diag)) : Prop :=
  a.filter Out.isDocRelated = b.filter Out.isDocRelated ∧ a.filter Out.isResp = b.filter Out.isResp

theorem Agree.of_eq {a b : List (Out Uri Resp Diag)} (h : a = b) : Agree a b := by
  subst h; exact ⟨rfl, rfl⟩

theorem Agree.trans {a b c : List (Out Uri Resp Diag)} (h1 : Agree a b) (h2 : Agree b c) : Agree a c :=
  ⟨h1.1.trans h2.1, h1.2.trans h2.2⟩

theorem Agree.move (o : Out Uri Resp Diag) (pre mid post : List (Out Uri Resp Diag))
    (hmid : ∀ x ∈ mid, x.isResp = false) (ho : o.isDocRelated = true → mid = []) :
    Agree (pre ++ (o :: (mid ++ post))) (pre ++ (mid ++ o :: post)) := by
  constructor
  · cases h : o.isDocRelated with
    | false => simp only [List.filter_append, List.filter_cons, h, Bool.false_eq_true, if_false]
    | true => rw [ho h]; rfl
  · have : mid.filter Out.isResp = [] :=
      List.filter_eq_nil_iff.2 fun x hx => ne_true_of_eq_false (hmid x hx)
    simp only [List.filter_append, List.filter_cons, this, List.nil_append]

theorem inv_init (input : List (CMsg Uri Text Chg Req Resp)) :
    Inv (init input : State Uri Text Chg Req Resp Diag) :=
  ⟨nofun, nofun, nofun, fun _ => nofun, nofun⟩

section
variable {s s' : State Uri Text Chg Req Resp Diag} (hinv : Inv s)
include hinv

theorem Inv.reply_none (h : s.reader ≠ .waitReply ∨ s.docCh ≠ []) : s.reply = none := by
  cases hr : s.reply with
  | none => rfl
  | some o =>
    have := hinv.replyWait o hr
    exact h.elim (absurd this.1) (absurd this.2.1)

theorem Inv.not_wait (h : s.reader ≠ .waitReply) : s.reply = none ∧ NoGet s.docCh :=
  ⟨hinv.reply_none (.inl h), hinv.notWait h⟩

end

section
variable [DecidableEq Uri] (f : Fns Uri Text Chg Req Resp Diag) (diagOn : Bool) (docCap ioCap : Nat)

/-- The kinds of step with their successor states.  The channel capacities only decide whether a
    step is enabled, so they do not appear. -/
inductive Step (s : State Uri Text Chg Req Resp Diag) : State Uri Text Chg Req Resp Diag → Prop
  | respond {o rest} : s.ioCh = o :: rest → Step s { s with ioCh := rest, out := s.out ++ [o] }
  | publish {o} : s.broker = .sendDiag o → Step s { s with ioCh := s.ioCh ++ [o], broker := .idle }
  | handle {b rest d' dg rp} : s.broker = .idle → s.docCh = b :: rest →
      brokerHandle f diagOn s.docs b = (d', dg, rp) →
      Step s { s with docCh := rest, docs := d',
                      broker := match dg with
                        | some o => .sendDiag o
                        | none => .idle,
                      reply := match rp with
                        | some o => some o
                        | none => s.reply }
  | forward {m rest b} : s.reader = .idle → s.input = m :: rest → toBReq m = some b →
      Step s { s with input := rest, reader := .sendDoc b }
  | direct {id resp rest} : s.reader = .idle → s.input = .otherReq id resp :: rest →
      Step s { s with input := rest, reader := .sendIo (.resp id resp false) }
  | enqueue {b} : s.reader = .sendDoc b →
      Step s { s with docCh := s.docCh ++ [b], reader := if b.isGet then .waitReply else .idle }
  | receive {o} : s.reader = .waitReply → s.reply = some o →
      Step s { s with reply := none, reader := .sendIo o }
  | answer {o} : s.reader = .sendIo o → Step s { s with ioCh := s.ioCh ++ [o], reader := .idle }

section
variable {f diagOn docCap ioCap} {s s' : State Uri Text Chg Req Resp Diag}

theorem Step.of_step {p : Proc} (h : step f diagOn docCap ioCap s p = some s') :
    Step f diagOn s s' := by
  unfold step at h
  split at h
  · split at h
    · next hr =>
      split at h
      · cases h
      · next hi => cases h; exact .forward hr hi rfl
      · next hi => cases h; exact .forward hr hi rfl
      · next hi => cases h; exact .forward hr hi rfl
      · next hi => cases h; exact .forward hr hi rfl
      · next hi => cases h; exact .direct hr hi
    · next b hr =>
      split at h
      · cases h
        have : Step f diagOn s _ := .enqueue hr
        cases b <;> exact this
      · cases h
    · next hr =>
      split at h
      · next hrp => cases h; exact .receive hr hrp
      · cases h
    · next hr =>
      split at h
      · cases h; exact .answer hr
      · cases h
  · split at h
    · next hb =>
      split at h
      · cases h; exact .publish hb
      · cases h
    · next hb =>
      split at h
      · cases h
      · next hd =>
        rcases hbh : brokerHandle f diagOn s.docs _ with ⟨d', dg, rp⟩
        rw [hbh] at h
        cases h
        exact .handle hb hd hbh
  · split at h
    · cases h
    · next hio => cases h; exact .respond hio

theorem Step.sound (hinv : Inv s) (h : Step f diagOn s s') :
    Inv s' ∧ Agree (future f diagOn s') (future f diagOn s) := by
  cases h with
  | respond hio =>
    refine ⟨⟨hinv.brokerDiag, hinv.replyWait, hinv.waitGet, hinv.notWait, hinv.sendIo⟩, .of_eq ?_⟩
    simp only [future, hio, List.append_assoc, List.cons_append, List.nil_append]
  | publish hb =>
    refine ⟨⟨nofun, fun o ho => ?_, hinv.waitGet, hinv.notWait,
      fun o ho => ⟨(hinv.sendIo o ho).1, fun hd => ⟨((hinv.sendIo o ho).2 hd).1, rfl⟩⟩⟩, .of_eq ?_⟩
    · cases hb.symm.trans (hinv.replyWait o ho).2.2.1
    · simp only [future, hb, brokerPend, List.append_assoc, List.cons_append, List.nil_append]
  | @handle b rest d' dg rp hb hd hbh =>
    have hreply := hinv.reply_none (.inr (hd ▸ List.cons_ne_nil _ _))
    refine ⟨?_, .of_eq ?_⟩
    · obtain ⟨hg, rfl, hdg⟩ | ⟨hg, rfl, o, rfl, hres, hrel⟩ := brokerHandle_cases hbh
      · refine ⟨?_, (fun o ho => nomatch hreply.symm.trans ho), ?_,
          fun hne => (noGet_cons (hd ▸ hinv.notWait hne)).2, ?_⟩
        · intro o ho
          cases dg with
          | none => cases ho
          | some o' => cases ho; exact hdg _ rfl
        · intro hw _
          obtain ⟨pre, g, hpre, hng, hgg⟩ := hinv.waitGet hw hreply
          obtain ⟨rfl, h2⟩ | ⟨xs, rfl, rfl⟩ := List.cons_eq_append_iff.1 (hd.symm.trans hpre)
          · cases h2; cases hg.symm.trans hgg
          · exact ⟨xs, g, rfl, (noGet_cons hng).2, hgg⟩
        · intro o ho
          refine ⟨(hinv.sendIo o ho).1, fun hrel => ?_⟩
          cases hd.symm.trans ((hinv.sendIo o ho).2 hrel).1
      · -- `b` is the request the reader is waiting on, hence the last one in the queue
        have hw : s.reader = .waitReply := Classical.byContradiction fun hne =>
          nomatch hg.symm.trans (noGet_cons (hd ▸ hinv.notWait hne)).1
        obtain ⟨pre, g, hpre, hng, -⟩ := hinv.waitGet hw hreply
        obtain ⟨rfl, h2⟩ | ⟨xs, rfl, -⟩ := List.cons_eq_append_iff.1 (hd.symm.trans hpre)
        · cases h2
          refine ⟨nofun, fun o' ho' => ?_, fun _ => nofun, fun hne => absurd hw hne,
            fun o' ho' => nomatch hw.symm.trans ho'⟩
          cases ho'; exact ⟨hw, rfl, rfl, hrel, hres⟩
        · cases hg.symm.trans (noGet_cons hng).1
    · simp only [future, hb, hd, hreply, runBroker, handleOut, hbh, brokerPend, optList,
        List.nil_append, List.append_assoc]
      cases dg <;> cases rp <;> rfl
  | forward hr hi hb =>
    obtain ⟨hreply, hng⟩ := hinv.not_wait fun h => nomatch hr.symm.trans h
    refine ⟨⟨hinv.brokerDiag, (fun o ho => nomatch hreply.symm.trans ho), nofun, fun _ => hng, nofun⟩,
      .of_eq ?_⟩
    simp only [future, readerFuture, seqRun, hr, hi, hb]
  | direct hr hi =>
    obtain ⟨hreply, hng⟩ := hinv.not_wait fun h => nomatch hr.symm.trans h
    refine ⟨⟨hinv.brokerDiag, (fun o ho => nomatch hreply.symm.trans ho), nofun, fun _ => hng,
      fun o ho => ?_⟩, .of_eq ?_⟩
    · cases ho; exact ⟨rfl, nofun⟩
    · simp only [future, readerFuture, seqRun, toBReq, hr, hi]
  | @enqueue b hr =>
    obtain ⟨hreply, hng⟩ := hinv.not_wait fun h => nomatch hr.symm.trans h
    refine ⟨?_, .of_eq ?_⟩
    · cases hg : b.isGet with
      | false =>
        refine ⟨hinv.brokerDiag, (fun o ho => nomatch hreply.symm.trans ho), nofun,
          fun _ x hx => ?_, nofun⟩
        obtain hx | hx := List.mem_append.1 hx
        · exact hng x hx
        · cases List.mem_singleton.1 hx; exact hg
      | true =>
        exact ⟨hinv.brokerDiag, (fun o ho => nomatch hreply.symm.trans ho),
          fun _ _ => ⟨s.docCh, b, rfl, hng, hg⟩, fun hne => absurd rfl hne, nofun⟩
    · simp only [future, runBroker_append, runBroker, hr, readerFuture, List.append_assoc,
        List.append_nil]
      cases b.isGet <;> rfl
  | @receive o hr hrp =>
    obtain ⟨-, hdc, hbi, hrel, hres⟩ := hinv.replyWait o hrp
    refine ⟨⟨hinv.brokerDiag, nofun, nofun, fun _ => hdc ▸ nofun, fun o' ho' => ?_⟩, .of_eq ?_⟩
    · cases ho'; exact ⟨hres, fun _ => ⟨hdc, hbi⟩⟩
    · simp only [future, readerFuture, hr, hrp, hdc, hbi, runBroker, brokerPend, optList,
        List.nil_append, List.cons_append]
  | @answer o hr =>
    obtain ⟨hreply, hng⟩ := hinv.not_wait fun h => nomatch hr.symm.trans h
    refine ⟨⟨hinv.brokerDiag, (fun o ho => nomatch hreply.symm.trans ho), nofun, fun _ => hng, nofun⟩, ?_⟩
    -- `o` overtakes what the broker holds and will produce for its queue: diagnostics only
    have := Agree.move o (s.out ++ s.ioCh) (brokerPend s.broker ++ (runBroker f diagOn s.docs s.docCh).2)
      (seqRun f diagOn (runBroker f diagOn s.docs s.docCh).1 s.input) ?_ ?_
    · simpa only [future, readerFuture, hr, hreply, optList, List.nil_append, List.cons_append,
        List.append_assoc] using this
    · intro x hx
      obtain hx | hx := List.mem_append.1 hx
      · cases hb : s.broker with
        | idle => rw [hb] at hx; cases hx
        | sendDiag d =>
          rw [hb] at hx
          cases List.mem_singleton.1 hx
          exact (hinv.brokerDiag _ hb).1
      · exact runBroker_noGet f diagOn _ _ hng x hx
    · intro hrel
      obtain ⟨hdc, hbi⟩ := (hinv.sendIo o hr).2 hrel
      rw [hdc, hbi]; rfl

end

theorem runSchedule_agree (s : State Uri Text Chg Req Resp Diag) (sched : List Proc) (hinv : Inv s) :
    Inv (runSchedule f diagOn docCap ioCap s sched) ∧
    Agree (future f diagOn (runSchedule f diagOn docCap ioCap s sched)) (future f diagOn s) := by
  induction sched generalizing s with
  | nil => exact ⟨hinv, .of_eq rfl⟩
  | cons p ps ih =>
    simp only [runSchedule]
    cases hs : step f diagOn docCap ioCap s p with
    | none => exact ih s hinv
    | some s' =>
      have h1 := (Step.of_step hs).sound hinv
      have h2 := ih s' h1.1
      exact ⟨h2.1, h2.2.trans h1.2⟩

theorem future_final (s : State Uri Text Chg Req Resp Diag) (hinv : Inv s) (hf : isFinal s = true) :
    future f diagOn s = s.out := by
  simp only [isFinal, Bool.and_eq_true, List.isEmpty_iff] at hf
  obtain ⟨⟨⟨⟨hi, hd⟩, hio⟩, hr⟩, hb⟩ := hf
  have hr' : s.reader = .idle := by
    cases h : s.reader <;> first | rfl | (rw [h] at hr; cases hr)
  have hb' : s.broker = .idle := by
    cases h : s.broker <;> first | rfl | (rw [h] at hb; cases hb)
  have hreply := hinv.reply_none (.inl fun h => nomatch hr'.symm.trans h)
  simp only [future, readerFuture, hi, hd, hio, hr', hb', hreply, runBroker, brokerPend, optList, seqRun,
    List.append_nil]

theorem future_init (input : List (CMsg Uri Text Chg Req Resp)) :
    future f diagOn (init input : State Uri Text Chg Req Resp Diag) = seqRun f diagOn [] input := rfl

/-- **Progress**: with channel capacities ≥ 1, a state that is not final has an enabled process —
    the network cannot deadlock (the client draining stdout is the responder's step). -/
theorem progress (s : State Uri Text Chg Req Resp Diag) (hinv : Inv s)
    (hdc : 1 ≤ docCap) (hic : 1 ≤ ioCap) (hnf : isFinal s = false) :
    ∃ p, (step f diagOn docCap ioCap s p).isSome = true := by
  cases hio : s.ioCh with
  | cons o rest => exact ⟨.responder, by simp only [step, hio, Option.isSome_some]⟩
  | nil =>
    have hlen : s.ioCh.length < ioCap := hio ▸ hic
    cases hb : s.broker with
    | sendDiag o => exact ⟨.broker, by simp only [step, hb, hlen, if_true, Option.isSome_some]⟩
    | idle =>
      cases hd : s.docCh with
      | cons b rest => exact ⟨.broker, by simp only [step, hb, hd, Option.isSome_some]⟩
      | nil =>
        have hdl : s.docCh.length < docCap := hd ▸ hdc
        refine ⟨.reader, ?_⟩
        cases hr : s.reader with
        | waitReply =>
          cases hrp : s.reply with
          | some o => simp only [step, hr, hrp, Option.isSome_some]
          | none =>
            obtain ⟨pre, g, hpre, -⟩ := hinv.waitGet hr hrp
            cases pre <;> cases hd.symm.trans hpre
        | idle =>
          cases hi : s.input with
          | nil => simp [isFinal, hi, hd, hio, hr, hb] at hnf
          | cons m rest => cases m <;> simp only [step, hr, hi, Option.isSome_some]
        | _ => simp only [step, hr, hlen, hdl, if_true, Option.isSome_some]

def readerW : Reader Uri Text Chg Req Resp Diag → Nat
  | .idle => 0
  | .sendDoc _ => 5
  | .waitReply => 1
  | .sendIo _ => 2

def brokerW : Broker Uri Resp Diag → Nat
  | .idle => 0
  | .sendDiag _ => 2

def measure (s : State Uri Text Chg Req Resp Diag) : Nat :=
  6 * s.input.length + readerW s.reader + 3 * s.docCh.length + brokerW s.broker +
    (match s.reply with | some _ => 2 | none => 0) + s.ioCh.length

variable {f diagOn} in
theorem Step.measure_lt {s s' : State Uri Text Chg Req Resp Diag} (h : Step f diagOn s s') :
    measure s' < measure s := by
  cases h with
  | @handle b rest d' dg rp hb hd hbh =>
    -- the queue entry's 3 pays for a diagnostic (2) or for a reply (2), never for both
    obtain ⟨-, rfl, -⟩ | ⟨-, rfl, o, rfl, -⟩ := brokerHandle_cases hbh
    · cases dg <;> simp +arith only [measure, hb, hd, brokerW, List.length_cons]
    · simp +arith only [measure, hb, hd, brokerW, List.length_cons]
  | @enqueue b hr =>
    cases b.isGet <;>
      simp +arith only [measure, hr, Bool.false_eq_true, if_false, if_true, readerW,
        List.length_append, List.length_singleton]
  | _ =>
    -- in the other steps every component of `s'` that changes is given by a hypothesis: put them in and add up
    simp +arith only [measure, readerW, brokerW, *, List.length_cons, List.length_append,
      List.length_nil]

end

end Spl.Net
