/-
  One step of the lexer model: what a single recogniser can return, the lemmas about the tiling
  checker, and three checks of the generated tables (`SymbolOrderOK`, `spellingStartOK`, `LookAheadOK`) that C06
  and C07 evaluate as results of their own: the proofs of `lex_conforms` and `lexLocal` do not go through them.
-/
import SplVerif.Model.Lexer
import SplVerif.Spec.Tiling

namespace Spl

/-- What the proofs need from `Gen.altOrder`/`Gen.spelling`: every symbol/keyword alternative
    has a non-empty spelling and a payload-free token type different from `Eof`. -/
def altItemOK : AltItem → Bool
  | .symbol k | .keyword k =>
    (match Gen.spelling k with
     | some p => !p.isEmpty
     | none => false) &&
    (match k.plain with
     | some ty => ty != .Eof
     | none => false)
  | _ => true

theorem altOrder_ok : Gen.altOrder.all altItemOK = true ∧ .unknown ∈ Gen.altOrder := by
  decide +kernel

theorem stripPrefix_length {p s r : List Char} (h : stripPrefix p s = some r) :
    p.length + r.length = s.length := by
  induction p generalizing s with
  | nil => cases h; simp
  | cons a as ih =>
    cases s with
    | nil => cases h
    | cons c cs =>
      simp only [stripPrefix] at h
      split at h
      · have := ih h; simp only [List.length_cons]; omega
      · cases h

structure OutOK (s : List Char) (o : LexOut) : Prop where
  pos : 1 ≤ o.n
  le : o.n ≤ s.length
  notEof : o.ty ≠ .Eof

theorem lexComment_ok {s o} (h : lexComment s = some o) : OutOK s o := by
  unfold lexComment at h
  split at h
  · rename_i rest
    have hsplit := congrArg List.length
      (List.takeWhile_append_dropWhile (p := (· != '\n')) (l := rest))
    rw [List.length_append] at hsplit
    dsimp only at h
    split at h
    · cases h; exact ⟨by simp only; omega, by simp only [List.length_cons]; omega, by simp⟩
    · rename_i heq
      rw [heq, List.length_cons] at hsplit
      cases h; exact ⟨by simp only; omega, by simp only [List.length_cons]; omega, by simp⟩
  · cases h

theorem spelled_ok {k p ty s r} (hk : altItemOK (.symbol k) = true) (hp : Gen.spelling k = some p)
    (hty : k.plain = some ty) (hr : stripPrefix p s = some r) :
    OutOK s { ty := ty, n := p.length } := by
  simp only [altItemOK, hp, hty, Bool.and_eq_true, Bool.not_eq_true', bne_iff_ne, ne_eq] at hk
  have := stripPrefix_length hr
  refine ⟨?_, by simp only; omega, hk.2⟩
  cases p with
  | nil => cases hk.1
  | cons => simp

theorem lexSymbol_ok {k s o} (hk : altItemOK (.symbol k) = true) (h : lexSymbol k s = some o) :
    OutOK s o := by
  unfold lexSymbol at h
  split at h
  · rename_i hp hty
    split at h
    · rename_i hr; cases h; exact spelled_ok hk hp hty hr
    · cases h
  · cases h

theorem lexKeyword_ok {k s o} (hk : altItemOK (.keyword k) = true) (h : lexKeyword k s = some o) :
    OutOK s o := by
  unfold lexKeyword at h
  split at h
  · rename_i hp hty
    split at h
    · rename_i hr; cases h; exact spelled_ok hk hp hty hr
    · rename_i hr
      split at h
      · cases h
      · cases h; exact spelled_ok hk hp hty hr
    · cases h
  · cases h

theorem lexChar_ok {s o} (h : lexChar s = some o) : OutOK s o := by
  unfold lexChar at h
  split at h
  · split at h <;> cases h <;> exact ⟨by simp, by simp, by simp⟩
  · split at h <;> cases h <;> exact ⟨by simp, by simp, by simp⟩
  · cases h

theorem lexHex_ok {s o} (h : lexHex s = some o) : OutOK s o := by
  unfold lexHex at h
  split at h
  · rename_i rest
    have hl := (List.takeWhile_prefix isHexDigit (l := rest)).length_le
    dsimp only at h
    split at h
    · cases h; exact ⟨by simp, by simp, by simp⟩
    · split at h <;> cases h <;>
        exact ⟨by simp only; omega, by simp only [List.length_cons]; omega, by simp⟩
  · cases h

theorem lexInt_ok {s o} (h : lexInt s = some o) : OutOK s o := by
  unfold lexInt at h
  have hl := (List.takeWhile_prefix isDigit (l := s)).length_le
  dsimp only at h
  split at h
  · cases h
  · rename_i hne
    have h1 : 1 ≤ (s.takeWhile isDigit).length := by
      cases hd : s.takeWhile isDigit with
      | nil => simp [hd] at hne
      | cons => simp
    split at h <;> cases h <;> exact ⟨h1, hl, by simp⟩

theorem lexIdent_ok {s o} (h : lexIdent s = some o) : OutOK s o := by
  unfold lexIdent at h
  split at h
  · rename_i c rest
    have hl := (List.takeWhile_prefix isAlnumTrunc (l := rest)).length_le
    split at h
    · cases h; exact ⟨by simp, by simp only [List.length_cons]; omega, by simp⟩
    · cases h
  · cases h

theorem lexUnknown_ok {s o} (h : lexUnknown s = some o) : OutOK s o := by
  unfold lexUnknown at h
  split at h
  · cases h; exact ⟨by simp, by simp, by simp⟩
  · cases h

theorem lexItem_ok {a s o} (ha : altItemOK a = true) (h : lexItem a s = some o) : OutOK s o := by
  cases a with
  | comment => exact lexComment_ok h
  | symbol k => exact lexSymbol_ok ha h
  | keyword k => exact lexKeyword_ok ha h
  | char => exact lexChar_ok h
  | hex => exact lexHex_ok h
  | int => exact lexInt_ok h
  | ident => exact lexIdent_ok h
  | unknown => exact lexUnknown_ok h

theorem firstMatch_ok {as : List AltItem} {s o} (has : as.all altItemOK = true)
    (h : firstMatch as s = some o) : OutOK s o := by
  induction as with
  | nil => cases h
  | cons a as ih =>
    simp only [List.all_cons, Bool.and_eq_true] at has
    simp only [firstMatch] at h
    split at h
    · rename_i ho
      cases h
      exact lexItem_ok has.1 ho
    · exact ih has.2 h

theorem firstMatch_some_of_unknown {as : List AltItem} {c : Char} {cs : List Char}
    (h : .unknown ∈ as) : ∃ o, firstMatch as (c :: cs) = some o := by
  induction as with
  | nil => cases h
  | cons a as ih =>
    simp only [firstMatch]
    cases hm : lexItem a (c :: cs) with
    | some o => exact ⟨o, rfl⟩
    | none =>
      rcases List.mem_cons.mp h with rfl | h
      · cases hm
      · exact ih h

theorem lexOne_ok {s o} (h : lexOne s = some o) : OutOK s o :=
  firstMatch_ok altOrder_ok.1 h

theorem lexOne_total (c : Char) (cs : List Char) : ∃ o, lexOne (c :: cs) = some o :=
  firstMatch_some_of_unknown altOrder_ok.2

theorem utf8Len_take_drop (r : List Char) (n : Nat) :
    utf8Len (r.take n) + utf8Len (r.drop n) = utf8Len r := by
  rw [← utf8Len_append, List.take_append_drop]

theorem utf8Len_take_pos {r : List Char} {n : Nat} (h1 : 1 ≤ n) (h2 : n ≤ r.length) :
    0 < utf8Len (r.take n) := by
  cases r with
  | nil => simp only [List.length_nil] at h2; omega
  | cons c cs =>
    obtain ⟨m, rfl⟩ : ∃ m, n = m + 1 := ⟨n - 1, by omega⟩
    have := utf8Size_pos c
    simp only [List.take_succ_cons, utf8Len_cons]; omega

theorem skipWsTo_self (r : List Char) (o : Nat) : skipWsTo r o o = some r := by
  unfold skipWsTo; rw [if_pos rfl]

theorem takeTo_take (r : List Char) (o n : Nat) (h : n ≤ r.length) :
    takeTo r o (o + utf8Len (r.take n)) = some (r.drop n) := by
  induction r generalizing o n with
  | nil => unfold takeTo; simp
  | cons c cs ih =>
    cases n with
    | zero => unfold takeTo; simp
    | succ n =>
      unfold takeTo
      have hc := utf8Size_pos c
      simp only [List.take_succ_cons, utf8Len_cons, List.drop_succ_cons]
      have h1 : ¬ (o = o + (c.utf8Size + utf8Len (List.take n cs))) := by omega
      have h2 : o < o + (c.utf8Size + utf8Len (List.take n cs)) := by omega
      simp only [h1, h2, if_true, if_false]
      rw [← Nat.add_assoc]
      exact ih _ n (Nat.le_of_succ_le_succ h)

theorem isSpace_eq_wsChar (c : Char) : isSpace c = wsChar c := rfl

theorem skipWsTo_cons_ws {c : Char} {cs : List Char} {o t : Nat} (hws : wsChar c = true)
    (hlt : o + c.utf8Size ≤ t) : skipWsTo (c :: cs) o t = skipWsTo cs (o + c.utf8Size) t := by
  have hc := utf8Size_pos c
  conv => lhs; unfold skipWsTo
  have h1 : ¬ (o = t) := by omega
  have h2 : o < t := by omega
  simp [h1, h2, hws]

theorem tilingGo_cons_ws {ts : List Token} {c : Char} {cs : List Char} {o : Nat}
    (hws : wsChar c = true) (hlo : ∀ t ∈ ts.head?, o + c.utf8Size ≤ t.range.lo)
    (h : tilingGo ts cs (o + c.utf8Size) = true) : tilingGo ts (c :: cs) o = true := by
  match ts, h, hlo with
  | [], h, _ => cases h
  | [t], h, hlo | t :: _ :: _, h, hlo =>
    simp only [tilingGo] at h ⊢
    rw [skipWsTo_cons_ws hws (hlo t rfl)]
    exact h

def isProperPrefix : List Char → List Char → Bool
  | [], [] => false
  | [], _ :: _ => true
  | _ :: _, [] => false
  | a :: as, b :: bs => a == b && isProperPrefix as bs

/-- Spellings of the fixed-spelling alternatives in source order (`//` for the comment). -/
def altSpelling : AltItem → Option (List Char)
  | .comment => some ['/', '/']
  | .symbol k => Gen.spelling k
  | _ => none

/-- Among the fixed-spelling alternatives tried before the word/number classes, no
    earlier spelling is a proper prefix of a later one (otherwise the longer one is dead and
    longest match fails, e.g. `<` before `<=`). -/
def orderOKGo : List AltItem → Bool
  | [] => true
  | a :: rest =>
    (match altSpelling a with
     | some p => rest.all (fun b => match altSpelling b with
                                   | some q => !isProperPrefix p q
                                   | none => true)
     | none => true) && orderOKGo rest

def SymbolOrderOK : Bool := orderOKGo Gen.altOrder

/-- The look-ahead a token kind needs so that "the text up to the token end plus look-ahead is
    unchanged" implies "the token is unchanged": 1 for every maximal-run class and for keywords,
    and for a symbol the length by which a longer fixed spelling extends it. -/
def requiredLA (k : Kind) : Nat :=
  match k with
  | .Eof => 0
  | .If | .Else | .While | .Array | .Of | .Proc | .Ref | .Type | .Var
  | .Ident | .Int | .Hex | .Char | .Unknown | .Comment => 1
  | k =>
    match Gen.spelling k with
    | none => 0
    | some p =>
      (Gen.altOrder.filterMap altSpelling).foldl
        (fun acc q => if isProperPrefix p q then max acc (q.length - p.length) else acc) 0

def allKinds : List Kind :=
  [.LParen, .RParen, .LBracket, .RBracket, .LCurly, .RCurly, .Eq, .Neq, .Lt, .Le, .Gt, .Ge,
   .Assign, .Colon, .Comma, .Semic, .Plus, .Minus, .Times, .Divide, .If, .Else, .While, .Array,
   .Of, .Proc, .Ref, .Type, .Var, .Ident, .Char, .Int, .Hex, .Comment, .Unknown, .Eof]

/-- The generated look-ahead table grants every kind at least what it needs, and never more than one character
    (the head/tail partition of `lexer::update` relies on ≤ 1; the proofs take that from `lookAhead_le_one` of
    `Lemmas/IncLex`). -/
def LookAheadOK : Bool :=
  allKinds.all (fun k => requiredLA k ≤ Gen.lookAhead k && Gen.lookAhead k ≤ 1)

/-- No fixed spelling starts with an identifier character or a digit or a quote, so symbols
    never compete with the word, number and character classes. -/
def spellingStartOK : Bool :=
  Gen.altOrder.all (fun a => match a with
    | .symbol k => match Gen.spelling k with
      | some (c :: _) => !(isAlpha c || c == '_' || isDigit c || c == '\'' || isSpace c)
      | _ => false
    | _ => true)

end Spl
