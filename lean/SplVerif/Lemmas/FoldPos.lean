/-
  Positions of token bounds (C17 well-formed folding ranges, C15 token order, and through `Lemmas/Cursor` C12 and
  C03): `as_position` is monotone on character boundaries (`Cut`), the bounds of every token are such boundaries,
  and the tokens of an analysed document tile the text in order.
-/
import SplVerif.Props.C08
import SplVerif.Lemmas.IncLex
import SplVerif.Model.Features

namespace Spl.FoldPos
open Spl

/-- Walking to a later boundary passes through the state reached at an earlier one. -/
theorem asPositionGo_compose : ∀ (a rest : List Char) (i l c k : Nat),
    asPositionGo (a ++ rest) i (i + utf8Len a + k) l c =
      asPositionGo rest (i + utf8Len a) (i + utf8Len a + k)
        (asPositionGo (a ++ rest) i (i + utf8Len a) l c).line
        (asPositionGo (a ++ rest) i (i + utf8Len a) l c).col
  | [], rest, i, l, c, k => by
    cases rest <;> simp [asPositionGo]
  | ch :: a', rest, i, l, c, k => by
    have hsz := utf8Size_pos ch
    have e : i + utf8Len (ch :: a') = (i + ch.utf8Size) + utf8Len a' := by
      simp only [utf8Len_cons]; omega
    rw [List.cons_append, asPositionGo_cons_ne (by omega), asPositionGo_cons_ne (by omega), e]
    exact asPositionGo_compose a' rest _ _ _ k


def Cut (text : List Char) (n : Nat) : Prop := ∃ a b, text = a ++ b ∧ utf8Len a = n

/-- **`as_position` is monotone** on character boundaries in document order (line, then column). -/
theorem asPosition_mono {text : List Char} {x y : Nat} (hx : Cut text x) (hy : Cut text y) (hxy : x ≤ y) :
    (asPosition x text).line < (asPosition y text).line ∨
      ((asPosition y text).line = (asPosition x text).line ∧ (asPosition x text).col ≤ (asPosition y text).col) := by
  obtain ⟨a, b, rfl, rfl⟩ := hx
  obtain ⟨a', b', e, rfl⟩ := hy
  obtain ⟨m, rfl, rfl⟩ := split_prefix e hxy
  have h := asPositionGo_compose a (m ++ b') 0 0 0 (utf8Len m)
  simp only [Nat.zero_add] at h
  simp only [asPosition, utf8Len_append]
  rw [h]
  exact C08.asPositionGo_mono (m ++ b') (utf8Len a) (utf8Len a + utf8Len m) _ _

theorem asPosition_line_mono {text : List Char} {x y : Nat} (hx : Cut text x) (hy : Cut text y) (hxy : x ≤ y) :
    (asPosition x text).line ≤ (asPosition y text).line := by
  rcases asPosition_mono hx hy hxy with h | ⟨h, _⟩ <;> omega

theorem Cut.le {text : List Char} {n : Nat} (h : Cut text n) : n ≤ utf8Len text := by
  obtain ⟨a, b, rfl, rfl⟩ := h
  rw [utf8Len_append]
  exact Nat.le_add_right _ _

theorem token_cut {text : List Char} {toks : List Token} (h : lex text = .ok toks) {t : Token} (ht : t ∈ toks) :
    ∃ a w b, text = a ++ (w ++ b) ∧ t.range.lo = utf8Len a ∧ t.range.hi = utf8Len a + utf8Len w := by
  cases (lex_eq text).symm.trans h
  rcases List.mem_append.mp ht with h1 | h1
  · obtain ⟨T1, T2, e⟩ := List.append_of_mem h1
    obtain ⟨a, w, b, hs, h1, h2, -⟩ := lexL_cut text 0 T1 t T2 e
    exact ⟨a, w, b, hs, by omega, by omega⟩
  · cases List.mem_singleton.mp h1
    exact ⟨text, [], [], (List.append_nil _).symm, rfl, rfl⟩

theorem token_bounds_are_cuts {text : List Char} {toks : List Token} (h : lex text = .ok toks) {t : Token}
    (ht : t ∈ toks) : Cut text t.range.lo ∧ Cut text t.range.hi := by
  obtain ⟨a, w, b, hs, h1, h2⟩ := token_cut h ht
  exact ⟨⟨a, w ++ b, hs, h1.symm⟩, ⟨a ++ w, b, by rw [hs, List.append_assoc], by rw [utf8Len_append, h2]⟩⟩

theorem tokens_layout (text : List Char) (toks : List Token) (h : lex text = .ok toks) :
    toks.Pairwise (fun x y => x.range.lo < x.range.hi ∧ x.range.hi ≤ y.range.lo) ∧
      ∀ t ∈ toks, t.range.lo ≤ t.range.hi := by
  refine ⟨?_, fun t ht => ?_⟩
  · cases (lex_eq text).symm.trans h
    have hb := lexL_bounds text 0
    refine List.pairwise_append.mpr ⟨(lexL_sorted text 0).imp_of_mem fun hx _ hxy => ⟨(hb _ hx).1, hxy⟩,
      List.pairwise_singleton .., fun x hx y hy => ?_⟩
    cases List.mem_singleton.mp hy
    exact ⟨(hb x hx).1, Nat.zero_add (utf8Len text) ▸ (hb x hx).2⟩
  · obtain ⟨a, w, b, -, h1, h2⟩ := token_cut h ht
    omega

theorem tokens_sorted (text : List Char) (toks : List Token) (h : lex text = .ok toks) :
    toks.Pairwise (fun x y => x.range.hi ≤ y.range.lo) :=
  (tokens_layout text toks h).1.imp (fun hxy => hxy.2)

end Spl.FoldPos
