/-
  Error recovery of a damaged global declaration resynchronises at the next declaration (C05).
-/
import SplVerif.Lemmas.ParseClean

namespace Spl.ParseConform
open Spl Spl.Parse Spl.Grammar

variable (ctx : Ctx)

def isSync (k : Kind) : Bool := k == .Proc || k == .Type || k == .Eof

theorem isSync_iff (k : Kind) : isSync k = true ↔ k ∈ [Kind.Proc, .Type, .Eof] := by
  simp [isSync, or_assoc]

/-- `look_ahead::global_dec` decides on the next non-comment token -/
theorem la_global_next (s : St) (i : Nat) (t : Token) (hN : Next ctx.toks s.pos i) (ht : ctx.toks[i]? = some t) :
    (isSync t.ty.kind = true → la ctx .global_dec s = .ok { s with pos := i + 1 } ()) ∧
    (isSync t.ty.kind = false → IsErr (la ctx .global_dec s)) := by
  have hv := altList_voidtk ctx (fun k => tagK_next ctx s i t k hN ht) [.Proc, .Type, .Eof] []
  exact ⟨fun h => hv.1 ((isSync_iff _).mp h),
    fun h => ⟨false, s, hv.2 (fun hm => by rw [(isSync_iff _).mpr hm] at h; cases h)⟩⟩

theorem la_global_ok_next (s s1 : St) (h : la ctx .global_dec s = .ok s1 ()) :
    ∃ i t, Next ctx.toks s.pos i ∧ ctx.toks[i]? = some t ∧ isSync t.ty.kind = true := by
  cases hts : tsFrom ctx.toks s.pos with
  | nil =>
    -- no token ahead: all three token parsers fail
    have f : ∀ k, IsErr (void (tk ctx k) s) := fun k => void_err _ _ (tagK_end ctx s hts k)
    obtain ⟨k, s', he⟩ : IsErr (la ctx .global_dec s) := .cons (f _) (.cons (f _) (.cons (f _) .nil))
    rw [he] at h; cases h
  | cons t0 r =>
    obtain ⟨hN, ⟨t, ht, _⟩, _⟩ := tsFrom_cons ctx.toks hts
    refine ⟨_, t, hN, ht, ?_⟩
    cases hsy : isSync t.ty.kind with
    | true => rfl
    | false =>
      obtain ⟨k, s', he⟩ := (la_global_next ctx s _ t hN ht).2 hsy
      rw [he] at h; cases h

theorem peek_ok_inv {α} {p : P α} {s s1 : St} {a : α} (h : peek p s = .ok s1 a) : s1 = s ∧ ∃ s2, p s = .ok s2 a := by
  unfold peek at h
  cases hp : p s with
  | ok s2 b => rw [hp] at h; cases h; exact ⟨rfl, s2, rfl⟩
  | err k s2 => rw [hp] at h; cases h
  | panic e => rw [hp] at h; cases h

/-- The statement of `C05.global_resync`.  By induction on the fuel: a round either stops, where the look-ahead set
    has accepted the next non-comment token (`isSync`), or skips one token, where it has refused it. -/
theorem global_resync : ∀ (fuel : Nat) (s s' : St) (start : Nat) (skipped : List Token),
    ignoreUntil0 ctx (peek (la ctx .global_dec)) fuel start s = .ok s' skipped →
    s.pos ≤ s'.pos ∧
    (∃ i t, Next ctx.toks s'.pos i ∧ ctx.toks[i]? = some t ∧ isSync t.ty.kind = true) ∧
    (∀ q, s.pos ≤ q → q < s'.pos → ∀ i t, Next ctx.toks q i → ctx.toks[i]? = some t → isSync t.ty.kind = false) := by
  intro fuel
  induction fuel with
  | zero => intro s s' start skipped h; cases h
  | succ fuel ih =>
    intro s s' start skipped h
    simp only [ignoreUntil0] at h
    cases hp : peek (la ctx .global_dec) s with
    | ok s1 u =>
      -- the pattern matches here: `peek` has restored the position
      rw [hp] at h
      cases h
      obtain ⟨rfl, s2, hla⟩ := peek_ok_inv hp
      exact ⟨Nat.le_refl _, la_global_ok_next ctx _ s2 hla, fun q a b => absurd b (Nat.not_lt.mpr a)⟩
    | panic e => rw [hp] at h; cases h
    | err k se =>
      -- the pattern fails here: one token is skipped
      rw [hp] at h
      cases ht : take1 ctx s with
      | err k2 s2 => rw [ht] at h; cases h
      | panic e => rw [ht] at h; cases h
      | ok s1 tk1 =>
        rw [ht] at h
        have hpos : s1.pos = s.pos + 1 := by
          unfold take1 at ht
          split at ht
          · cases ht; rfl
          · cases ht
        obtain ⟨g1, g2, g3⟩ := ih s1 s' start skipped h
        refine ⟨by omega, g2, fun q hq1 hq2 i t hN hti => ?_⟩
        by_cases hqs : q = s.pos
        · subst hqs
          cases hsy : isSync t.ty.kind with
          | false => rfl
          | true =>
            rw [peek_ok _ _ _ _ ((la_global_next ctx s i t hN hti).1 hsy)] at hp
            cases hp
        · exact g3 q (by omega) hq2 i t hN hti

end Spl.ParseConform
