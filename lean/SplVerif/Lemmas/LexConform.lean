/-
  C06, conformance: on every text that the independent maximal-munch specification
  (`Spec/LexSpec.lean`) accepts, the model of `lexer::lex` returns exactly the specification's
  token sequence.
-/
import SplVerif.Lemmas.LexLocal
import SplVerif.Spec.LexSpec

namespace Spl.Conform
open Spl

theorem char_le_iff (a b : Char) : a ≤ b ↔ a.toNat ≤ b.toNat := by
  rw [Char.le_def]
  exact UInt32.le_iff_toNat_le

theorem ws_eq (c : Char) : LexSpec.ws c = isSpace c := by
  rw [LexSpec.ws, isSpace, Bool.or_right_comm]

theorem digit_eq (c : Char) : LexSpec.digit c = isDigit c := by
  simp only [LexSpec.digit, isDigit, isAsciiDigitN, char_le_iff, Char.reduceToNat]

theorem letter_eq (c : Char) : LexSpec.letter c = (isAlpha c || c == '_') := by
  simp only [LexSpec.letter, isAlpha, isAsciiAlphaN, char_le_iff, Char.reduceToNat]
  rw [Bool.or_comm (_ && _)]

theorem hexdigit_eq (c : Char) : LexSpec.hexdigit c = isHexDigit c := by
  simp only [LexSpec.hexdigit, isHexDigit, digit_eq, char_le_iff, Char.reduceToNat]
  rw [Bool.or_assoc, Bool.or_assoc, Bool.or_comm (_ && _)]

theorem valOf_eq (c : Char) (h : isHexDigit c = true) : LexSpec.valOf c = digitVal c := by
  simp only [LexSpec.valOf, digitVal, digit_eq, char_le_iff, Char.reduceToNat, Bool.and_eq_true, decide_eq_true_eq]
  simp only [isHexDigit, Bool.or_eq_true, Bool.and_eq_true, decide_eq_true_eq] at h
  split
  · rfl
  · rename_i hd
    simp only [hd, Bool.false_eq_true, false_or] at h
    split <;> split <;> omega

theorem value_eq (base : Nat) : ∀ (ds : List Char) (acc : Nat), (∀ c ∈ ds, isHexDigit c = true) →
    LexSpec.value base ds acc = ds.foldl (fun a c => a * base + digitVal c) acc
  | [], acc, _ => rfl
  | c :: cs, acc, h => by
    rw [LexSpec.value, List.foldl_cons, valOf_eq c (h c (List.mem_cons_self ..))]
    exact value_eq base cs _ fun x hx => h x (List.mem_cons_of_mem _ hx)

theorem mem_takeWhile {α} (f : α → Bool) : ∀ (l : List α) (x : α), x ∈ l.takeWhile f → f x = true
  | [], x, h => by cases h
  | a :: as, x, h => by
    rw [List.takeWhile_cons] at h
    split at h
    · rcases List.mem_cons.mp h with rfl | h
      · assumption
      · exact mem_takeWhile f as x h
    · cases h

theorem value_takeWhile (base : Nat) (f : Char → Bool) (hf : ∀ c, f c = true → isHexDigit c = true)
    (s : List Char) :
    LexSpec.value base (s.takeWhile f) 0 = numVal base (s.takeWhile f) :=
  value_eq base _ 0 fun c hc => hf c (mem_takeWhile f s c hc)

theorem bytes_eq (s : List Char) : LexSpec.bytes s = utf8Len s := by
  induction s with
  | nil => rfl
  | cons c cs ih => simp only [LexSpec.bytes, List.map_cons, List.sum_cons, utf8Len_cons] at ih ⊢; rw [ih]

def kwEntry : AltItem → Option (List Char × TokenType)
  | .keyword k =>
    match Gen.spelling k, k.plain with
    | some p, some ty => some (p, ty)
    | _, _ => none
  | _ => none

def kwAlts : List AltItem := Gen.altOrder.filter fun a => (kwEntry a).isSome

theorem firstMatch_append (l1 l2 : List AltItem) (s : List Char) :
    firstMatch (l1 ++ l2) s = match firstMatch l1 s with
      | some o => some o
      | none => firstMatch l2 s := by
  induction l1 with
  | nil => rfl
  | cons a as ih =>
    simp only [List.cons_append, firstMatch]
    cases lexItem a s with
    | some o => rfl
    | none => exact ih

/-- first characters of words, numbers and character literals -/
def wordStart (c : Char) : Bool := isAlpha c || c == '_' || isDigit c || c == '\''

theorem firstMatch_class (cls : Char → Bool) {as : List AltItem}
    (has : as.all (fun a => a.first?.any (!cls ·)) = true) {c : Char} (hc : cls c = true) (cs : List Char) :
    firstMatch as (c :: cs) = none := by
  induction as with
  | nil => rfl
  | cons a as ih =>
    simp only [List.all_cons, Bool.and_eq_true, Option.any_eq_true] at has
    obtain ⟨⟨c0, h0, hcls⟩, has⟩ := has
    have hne : (c0 == c) = false := by
      cases hcc : c0 == c with
      | false => rfl
      | true => rw [eq_of_beq hcc, hc] at hcls; cases hcls
    rw [firstMatch, lexItem_of_not_starts ((a.starts_of_first h0 c).trans hne)]
    exact ih has

theorem alpha_facts {c : Char} (h : (isAlpha c || c == '_') = true) :
    c ≠ '/' ∧ c ≠ '0' ∧ c ≠ '\'' ∧ isDigit c = false ∧ wordStart c = true := by
  have hne : ∀ c0, (isAlpha c0 || c0 == '_') = false → c ≠ c0 := fun c0 h0 e => by
    rw [e, h0] at h
    cases h
  refine ⟨hne _ rfl, hne _ rfl, hne _ rfl, ?_, by rw [wordStart, h]; rfl⟩
  rcases Bool.or_eq_true_iff.mp h with h | h
  · simp only [isAlpha, isAsciiAlphaN, isDigit, isAsciiDigitN, Bool.or_eq_true, Bool.and_eq_true, decide_eq_true_eq,
      Bool.and_eq_false_iff, decide_eq_false_iff_not] at h ⊢
    omega
  · rw [eq_of_beq h]
    rfl

theorem digit_facts {c : Char} (h : isDigit c = true) :
    c ≠ '/' ∧ c ≠ '\'' ∧ (isAlpha c || c == '_') = false ∧ wordStart c = true ∧ isAlpha c = false := by
  have ha : isAlpha c = false := by
    simp only [isAlpha, isAsciiAlphaN, isDigit, isAsciiDigitN, Bool.or_eq_false_iff, Bool.and_eq_true, decide_eq_true_eq,
      Bool.and_eq_false_iff, decide_eq_false_iff_not] at h ⊢
    omega
  have hne : ∀ c0, isDigit c0 = false → c ≠ c0 := fun c0 h0 e => by
    rw [e, h0] at h
    cases h
  refine ⟨hne _ rfl, hne _ rfl, ?_, by rw [wordStart, h, Bool.or_true]; rfl, ha⟩
  rw [ha, beq_eq_false_iff_ne.mpr (hne _ rfl)]
  rfl

theorem lexInt_digit {c : Char} (cs : List Char) (h : isDigit c = true) : ∃ o, lexInt (c :: cs) = some o := by
  cases hi : lexInt (c :: cs) with
  | some o => exact ⟨o, rfl⟩
  | none =>
    have := lexInt_eq_none.mp hi
    simp only [List.takeWhile, h, reduceCtorEq] at this

theorem lexOne_digit (c : Char) (cs : List Char) (hd : isDigit c = true) :
    lexOne (c :: cs) = match lexHex (c :: cs) with
      | some o => some o
      | none => lexInt (c :: cs) := by
  obtain ⟨o, ho⟩ := lexInt_digit cs hd
  -- evaluated: the alternatives before `.hex` each start with one character, which is no digit
  rw [lexOne, show Gen.altOrder = Gen.altOrder.takeWhile (· != .hex) ++ [.hex, .int, .ident, .unknown] by decide +kernel,
    firstMatch_append, firstMatch_class isDigit (by decide +kernel) hd]
  simp only [firstMatch, lexItem, ho]
  cases lexHex (c :: cs) <;> rfl

theorem lexOne_word (c : Char) (cs : List Char) (h : (isAlpha c || c == '_') = true) :
    lexOne (c :: cs) = match firstMatch kwAlts (c :: cs) with
      | some o => some o
      | none => some { ty := .Ident (c :: cs.takeWhile isAlnumTrunc), n := 1 + (cs.takeWhile isAlnumTrunc).length } := by
  have hi : lexInt (c :: cs) = none := lexItem_of_not_starts (a := .int) (alpha_facts h).2.2.2.1 cs
  -- evaluated: the alternatives around the keywords each start with one character, which is neither a letter nor `_`
  rw [lexOne, show Gen.altOrder = Gen.altOrder.takeWhile (fun a => (kwEntry a).isNone) ++
      (kwAlts ++ ([.char, .hex] ++ [.int, .ident, .unknown])) by decide +kernel,
    firstMatch_append, firstMatch_class (fun c => isAlpha c || c == '_') (by decide +kernel) h, firstMatch_append,
    firstMatch_append [.char, .hex],
    firstMatch_class (fun c => isAlpha c || c == '_') (as := [.char, .hex]) (by decide +kernel) h]
  simp only [firstMatch, lexItem, hi, lexIdent_cons, h, if_true]

theorem stripPrefix_word {β} (o : β) : ∀ p s : List Char, (∀ x ∈ p, isAlnumTrunc x = true) →
    ((stripPrefix p s).bind fun r => if r.head?.any isAlnumTrunc then none else some o) =
      if p = s.takeWhile isAlnumTrunc then some o else none
  | [], [], _ => rfl
  | [], c :: cs, _ => by
    rw [stripPrefix, Option.bind_some, List.head?_cons, Option.any_some, List.takeWhile_cons]
    cases isAlnumTrunc c <;> rfl
  | a :: as, [], _ => rfl
  | a :: as, c :: cs, hp => by
    rw [stripPrefix, List.takeWhile_cons]
    by_cases hac : a = c
    · subst hac
      rw [beq_self_eq_true, if_pos rfl, hp a (List.mem_cons_self ..), if_pos rfl,
        stripPrefix_word o as cs fun x hx => hp x (List.mem_cons_of_mem _ hx)]
      simp only [List.cons.injEq, true_and]
    · rw [if_neg (by rwa [beq_iff_eq]), Option.bind_none, if_neg]
      split
      · exact fun e => hac (List.cons.inj e).1
      · exact List.cons_ne_nil _ _

def symTable : List (List Char × TokenType) :=
  [(['('], .LParen), ([')'], .RParen), (['['], .LBracket), ([']'], .RBracket), (['{'], .LCurly), (['}'], .RCurly),
   (['='], .Eq), (['#'], .Neq), (['<'], .Lt), (['<', '='], .Le), (['>'], .Gt), (['>', '='], .Ge),
   ([':', '='], .Assign), ([':'], .Colon), ([','], .Comma), ([';'], .Semic), (['+'], .Plus), (['-'], .Minus),
   (['*'], .Times), (['/'], .Divide)]

theorem symbols_eq : LexSpec.symbols = symTable := by
  unfold LexSpec.symbols
  -- a string literal is `String.ofList` of its characters, which `rw` sees; evaluating `String.toList` would
  -- have the kernel decode UTF-8
  repeat rw [String.toList_ofList]
  rfl

def symbolsAt (c : Char) : List (List Char × TokenType) := symTable.filter (·.1.head?.all (· == c))

def symProp (s : List Char) (e : List Char × TokenType) : Option LexSpec.Proposal :=
  if LexSpec.isPrefix e.1 s then some (e.1.length, e.2) else none

theorem symbol_cons (c : Char) (cs : List Char) :
    LexSpec.symbol (c :: cs) = (symbolsAt c).filterMap (symProp (c :: cs)) := by
  rw [LexSpec.symbol, symbols_eq, symbolsAt, List.filterMap_filter]
  congr
  funext ⟨sp, ty⟩
  cases sp with
  | nil => rfl
  | cons a as =>
    cases hac : a == c <;>
      simp only [symProp, LexSpec.isPrefix, List.head?_cons, Option.all_some, hac, Bool.false_and, Bool.true_and,
        Bool.false_eq_true, if_false, if_true]

theorem symbol_class (cls : Char → Bool) (h : symTable.all (fun e => e.1.head?.any (!cls ·)) = true) {c : Char}
    (hc : cls c = true) (cs : List Char) : LexSpec.symbol (c :: cs) = [] := by
  have : symbolsAt c = [] := by
    rw [symbolsAt, List.filter_eq_nil_iff]
    intro e he
    have := List.all_eq_true.mp h e he
    simp only [Option.any_eq_true] at this
    obtain ⟨c0, h0, hcls⟩ := this
    rw [h0, Option.all_some]
    intro hcc
    rw [eq_of_beq hcc, hc] at hcls
    cases hcls
  rw [symbol_cons, this]
  rfl

theorem spec_symbol_nil (c : Char) (cs : List Char) (hc : wordStart c = true) :
    LexSpec.symbol (c :: cs) = [] :=
  -- evaluated: no symbol of the table starts with a `wordStart` character
  symbol_class wordStart (by decide +kernel) hc cs

theorem spec_comment_nil (c : Char) (cs : List Char) (hc : c ≠ '/') : LexSpec.comment (c :: cs) = [] := by
  unfold LexSpec.comment
  split
  · rename_i heq; cases heq; exact absurd rfl hc
  · rfl

theorem spec_hex_nil (c : Char) (cs : List Char) (hc : c ≠ '0') : LexSpec.hexadecimal (c :: cs) = [] := by
  unfold LexSpec.hexadecimal
  split
  · rename_i heq; cases heq; exact absurd rfl hc
  · rfl

theorem spec_char_nil (c : Char) (cs : List Char) (hc : c ≠ '\'') : LexSpec.charLit (c :: cs) = [] := by
  unfold LexSpec.charLit
  split
  · rename_i heq; cases heq; exact absurd rfl hc
  · rename_i heq; cases heq; exact absurd rfl hc
  · rfl

theorem spec_decimal_nil (c : Char) (cs : List Char) (hc : isDigit c = false) :
    LexSpec.decimal (c :: cs) = [] := by
  rw [LexSpec.decimal, List.takeWhile_cons_of_neg (by rw [digit_eq, hc]; exact Bool.false_ne_true)]
  rfl

theorem spec_word_nil (c : Char) (cs : List Char) (hc : (isAlpha c || c == '_') = false) :
    LexSpec.word (c :: cs) = [] := by
  rw [LexSpec.word, letter_eq, hc]
  rfl

theorem longest_single (p : LexSpec.Proposal) : LexSpec.longest [p] = some p := rfl

theorem proposals_word (c : Char) (cs : List Char) (h : (isAlpha c || c == '_') = true) :
    LexSpec.proposals (c :: cs) = LexSpec.word (c :: cs) := by
  obtain ⟨h1, h2, h3, h4, h5⟩ := alpha_facts h
  rw [LexSpec.proposals, spec_comment_nil c cs h1, spec_symbol_nil c cs h5, spec_hex_nil c cs h2,
    spec_decimal_nil c cs h4, spec_char_nil c cs h3]
  simp only [List.nil_append, List.append_nil]

theorem proposals_digit {c : Char} (hd : isDigit c = true) (cs : List Char) :
    LexSpec.proposals (c :: cs) = LexSpec.hexadecimal (c :: cs) ++ LexSpec.decimal (c :: cs) := by
  obtain ⟨h1, h2, h3, h4, _⟩ := digit_facts hd
  rw [LexSpec.proposals, spec_comment_nil c cs h1, spec_symbol_nil c cs h4, spec_word_nil c cs h3, spec_char_nil c cs h2]
  simp only [List.nil_append, List.append_nil]

theorem proposals_tick (cs : List Char) : LexSpec.proposals ('\'' :: cs) = LexSpec.charLit ('\'' :: cs) := by
  rw [LexSpec.proposals, spec_comment_nil _ cs (by decide), spec_symbol_nil _ cs (by decide),
    spec_word_nil _ cs (by decide), spec_hex_nil _ cs (by decide), spec_decimal_nil _ cs (by decide)]
  rfl

theorem wordChar_alnum (x : Char) (h : LexSpec.wordChar x = true) : isAlnumTrunc x = true := by
  simp only [LexSpec.wordChar, letter_eq, digit_eq, isAlnumTrunc, isAlpha, isDigit, isAsciiAlphaN, isAsciiDigitN,
    Bool.or_eq_true, Bool.and_eq_true, decide_eq_true_eq, beq_iff_eq] at h ⊢
  rcases h with (h | h) | h
  · left; rw [Nat.mod_eq_of_lt (by omega)]; left; exact h
  · right; exact h
  · left; rw [Nat.mod_eq_of_lt (by omega)]; right; exact h

theorem takeWhile_append_of {α} (f : α → Bool) (a b : List α) (ha : ∀ x ∈ a, f x = true)
    (hb : ∀ d r, b = d :: r → f d = false) : (a ++ b).takeWhile f = a := by
  rw [List.takeWhile_append_of_pos ha]
  cases b with
  | nil => exact List.append_nil a
  | cons d r => rw [List.takeWhile_cons_of_neg (by rw [hb d r rfl]; exact Bool.false_ne_true), List.append_nil]

theorem keywords_eq : LexSpec.keywords = kwAlts.filterMap kwEntry := by
  unfold LexSpec.keywords
  repeat rw [String.toList_ofList]
  rfl

theorem firstMatch_keywords (s : List Char) : ∀ as : List AltItem,
    as.all (fun a => (kwEntry a).any (·.1.all isAlnumTrunc)) = true →
    firstMatch as s = ((as.filterMap kwEntry).find? (·.1 == s.takeWhile isAlnumTrunc)).map fun e =>
      { ty := e.2, n := (s.takeWhile isAlnumTrunc).length }
  | [], _ => rfl
  | a :: as, has => by
    simp only [List.all_cons, Bool.and_eq_true, Option.any_eq_true] at has
    obtain ⟨⟨⟨p, ty⟩, he, hp⟩, has⟩ := has
    rw [List.filterMap_cons_some he, List.find?_cons, firstMatch]
    cases a with
    | keyword k =>
      simp only [kwEntry] at he
      split at he
      · rename_i p' ty' hp' hty'
        cases he
        rw [lexItem, lexKeyword_eq hp' hty', stripPrefix_word _ p s (List.all_eq_true.mp hp)]
        by_cases hpw : p = s.takeWhile isAlnumTrunc
        · rw [← hpw]
          simp only [if_true, beq_self_eq_true, Option.map_some]
        · simp only [if_neg hpw, beq_eq_false_iff_ne.mpr hpw]
          exact firstMatch_keywords s as has
      · cases he
    | _ => cases he

/-- **Words.**  A maximal word followed by a character that is not a word character (for the
    model: not `is_alpha_numeric`) is the keyword of that spelling or an identifier — in the
    specification and in the model alike. -/
theorem word_step (c : Char) (cs : List Char) (halpha : (isAlpha c || c == '_') = true) (n : Nat) (ty : TokenType)
    (hl : LexSpec.longest (LexSpec.proposals (c :: cs)) = some (n, ty))
    (hnext : ∀ d r, (c :: cs).drop n = d :: r → isAlnumTrunc d = true → LexSpec.wordChar d = true) :
    lexOne (c :: cs) = some { ty := ty, n := n } := by
  -- `cs` is the rest `tw` of the maximal word and what follows it
  obtain ⟨tw, rest, rfl, htw, hrest⟩ : ∃ tw rest, cs = tw ++ rest ∧ (∀ x ∈ tw, LexSpec.wordChar x = true) ∧
      ∀ d r, rest = d :: r → LexSpec.wordChar d = false :=
    ⟨_, _, List.takeWhile_append_dropWhile.symm, mem_takeWhile _ cs, fun d r h => by
      have := List.head?_dropWhile_not LexSpec.wordChar cs
      rw [h] at this
      exact this⟩
  have hw : ∀ x ∈ c :: tw, LexSpec.wordChar x = true := fun x hx => by
    rcases List.mem_cons.mp hx with rfl | hx
    · rw [LexSpec.wordChar, letter_eq, halpha]; rfl
    · exact htw x hx
  have hwa : ∀ x ∈ c :: tw, isAlnumTrunc x = true := fun x hx => wordChar_alnum x (hw x hx)
  rw [proposals_word c _ halpha, LexSpec.word, letter_eq, if_pos halpha, ← List.cons_append,
    takeWhile_append_of LexSpec.wordChar (c :: tw) rest hw hrest] at hl
  -- the specification's proposal has the length of the maximal word, so `rest` is what follows the token
  have hn : n = tw.length + 1 := by
    dsimp only at hl
    split at hl <;> cases hl <;> rfl
  rw [hn, List.drop_succ_cons, List.drop_left] at hnext
  have hrest' : ∀ d r, rest = d :: r → isAlnumTrunc d = false := fun d r h => by
    cases hal : isAlnumTrunc d with
    | false => rfl
    | true => exact (hnext d r h hal).symm.trans (hrest d r h)
  -- evaluated: every keyword alternative has a spelling made of `isAlnumTrunc` characters
  rw [lexOne_word c _ halpha, firstMatch_keywords _ kwAlts (by decide +kernel), ← keywords_eq, ← List.cons_append,
    takeWhile_append_of isAlnumTrunc (c :: tw) rest hwa hrest',
    takeWhile_append_of isAlnumTrunc tw rest (fun x hx => hwa x (List.mem_cons_of_mem _ hx)) hrest']
  dsimp only at hl
  generalize LexSpec.keywords.find? (·.1 == c :: tw) = found at hl ⊢
  cases found <;> cases hl
  · rw [Nat.add_comm]
    rfl
  · rfl

theorem wordStart_false {c : Char} (h : wordStart c = false) :
    (isAlpha c || c == '_') = false ∧ isDigit c = false ∧ c ≠ '\'' := by
  simp only [wordStart, Bool.or_eq_false_iff, beq_eq_false_iff_ne] at h
  exact ⟨by rw [h.1.1.1, beq_eq_false_iff_ne.mpr h.1.1.2]; rfl, h.1.2, h.2⟩

theorem proposals_sym {c : Char} (h : wordStart c = false) (cs : List Char) :
    LexSpec.proposals (c :: cs) = LexSpec.comment (c :: cs) ++ LexSpec.symbol (c :: cs) := by
  obtain ⟨ha, hd, ht⟩ := wordStart_false h
  rw [LexSpec.proposals, spec_word_nil c cs ha, spec_hex_nil c cs (fun e => by rw [e] at hd; cases hd),
    spec_decimal_nil c cs hd, spec_char_nil c cs ht]
  simp only [List.append_nil]

theorem spec_sole {c : Char} {ty : TokenType} (h : wordStart c = false ∧ c ≠ '/' ∧ symbolsAt c = [([c], ty)])
    (cs : List Char) : LexSpec.proposals (c :: cs) = [(1, ty)] := by
  rw [proposals_sym h.1, spec_comment_nil c cs h.2.1, symbol_cons, h.2.2]
  simp only [List.filterMap, symProp, LexSpec.isPrefix, beq_self_eq_true]
  rfl

/-- the symbols that start with `c` are `c` and `c=` -/
theorem spec_pair {c : Char} {t1 t2 : TokenType} (h : wordStart c = false ∧ c ≠ '/' ∧
      (symbolsAt c = [([c], t1), ([c, '='], t2)] ∨ symbolsAt c = [([c, '='], t2), ([c], t1)])) (cs : List Char) :
    LexSpec.longest (LexSpec.proposals (c :: cs)) = some (if LexSpec.isPrefix ['='] cs then (2, t2) else (1, t1)) := by
  rw [proposals_sym h.1, spec_comment_nil c cs h.2.1, symbol_cons]
  rcases h.2.2 with hS | hS
  · simp only [hS, List.nil_append, List.filterMap, symProp, LexSpec.isPrefix, beq_self_eq_true, Bool.true_and, if_true]
    cases LexSpec.isPrefix ['='] cs <;> rfl
  · simp only [hS, List.nil_append, List.filterMap, symProp, LexSpec.isPrefix, beq_self_eq_true, Bool.true_and, if_true]
    cases LexSpec.isPrefix ['='] cs <;> rfl

/-- table condition relating the alternatives and the specification's symbols that can start with `c`: the
    one-character symbol `c`, first and alone respectively; or the symbols `c=` and `c`, in this order among the
    alternatives -/
def symOK (c : Char) : Bool :=
  match Gen.altOrder.filter (·.starts c), symbolsAt c with
  | .symbol k :: _, [e] => Gen.spelling k == some [c] && k.plain.any fun t => e == ([c], t)
  | .symbol k2 :: .symbol k1 :: _, [e, e'] =>
    Gen.spelling k2 == some [c, '='] && Gen.spelling k1 == some [c] &&
      k1.plain.any fun t1 => k2.plain.any fun t2 =>
        (e == ([c], t1) && e' == ([c, '='], t2)) || (e == ([c, '='], t2) && e' == ([c], t1))
  | _, _ => false

theorem sym_step {c : Char} {cs : List Char} {n : Nat} {ty : TokenType} (hw : wordStart c = false) (hc : c ≠ '/')
    (h : symOK c = true) (hl : LexSpec.longest (LexSpec.proposals (c :: cs)) = some (n, ty)) :
    lexOne (c :: cs) = some { ty := ty, n := n } := by
  unfold symOK at h
  split at h
  · rename_i k l e hL hS
    simp only [Bool.and_eq_true, beq_iff_eq, Option.any_eq_true] at h
    obtain ⟨hsp, ty', hty, rfl⟩ := h
    rw [spec_sole ⟨hw, hc, hS⟩] at hl
    cases hl
    rw [lexOne_filter hL, firstMatch, lexItem, lexSymbol_eq hsp hty]
    simp only [stripPrefix, beq_self_eq_true, if_true, Option.bind_some]
    rfl
  · rename_i k2 k1 l e e' hL hS
    simp only [Bool.and_eq_true, Bool.or_eq_true, beq_iff_eq, Option.any_eq_true] at h
    obtain ⟨⟨h2, h1⟩, t1, ht1, t2, ht2, hee⟩ := h
    have hb : LexSpec.isPrefix ['='] cs = (stripPrefix ['='] cs).isSome := by
      cases cs with
      | nil => rfl
      | cons x r => rw [stripPrefix, LexSpec.isPrefix]; cases '=' == x <;> rfl
    rw [spec_pair (t1 := t1) (t2 := t2) ⟨hw, hc, by
      rw [hS]
      rcases hee with ⟨rfl, rfl⟩ | ⟨rfl, rfl⟩
      · exact .inl rfl
      · exact .inr rfl⟩, hb] at hl
    rw [lexOne_filter hL, firstMatch, firstMatch, lexItem, lexItem, lexSymbol_eq h2 ht2, lexSymbol_eq h1 ht1]
    simp only [stripPrefix, beq_self_eq_true, if_true, Option.bind_some]
    generalize stripPrefix ['='] cs = sp at hl ⊢
    cases sp <;> cases hl <;> rfl
  · cases h

theorem spec_hex_not0x (c : Char) (cs : List Char) (h : ∀ r, c :: cs ≠ '0' :: 'x' :: r) :
    LexSpec.hexadecimal (c :: cs) = [] := by
  unfold LexSpec.hexadecimal
  split
  · rename_i r heq; exact absurd heq (h r)
  · rfl

theorem longest_two (p q : LexSpec.Proposal) (h : ¬ q.1 > p.1) : LexSpec.longest [p, q] = some p := by
  simp [LexSpec.longest, h]

theorem digit_step (c : Char) (cs : List Char) (hd : isDigit c = true)
    (hmal : LexSpec.malformedAt (c :: cs) = false) (n : Nat) (ty : TokenType)
    (hl : LexSpec.longest (LexSpec.proposals (c :: cs)) = some (n, ty)) :
    lexOne (c :: cs) = some { ty := ty, n := n } := by
  obtain ⟨h1, h2, h3, h4, _⟩ := digit_facts hd
  rw [lexOne_digit c cs hd]
  rw [proposals_digit hd] at hl
  by_cases h0x : ∃ r, c :: cs = '0' :: 'x' :: r
  · -- hexadecimal
    obtain ⟨r, hr⟩ := h0x
    cases hr
    have hv := value_takeWhile 16 isHexDigit (fun _ h => h) r
    simp only [LexSpec.malformedAt, funext hexdigit_eq, hv, Bool.or_eq_false_iff, decide_eq_false_iff_not,
      Nat.not_le] at hmal
    simp only [LexSpec.hexadecimal, funext hexdigit_eq, hv, hmal.1, Bool.false_eq_true, if_false,
      show LexSpec.decimal ('0' :: 'x' :: r) = [(1, .Int (.Int 0))] from rfl, List.nil_append, List.append_nil,
      List.cons_append] at hl
    rw [longest_two _ _ (by simp only [gt_iff_lt]; omega)] at hl
    cases hl
    have hle : numVal 16 (r.takeWhile isHexDigit) ≤ u32Max := by rw [u32Max]; omega
    simp only [lexHex, hmal.1, Bool.false_eq_true, if_false, hle, if_true]
  · -- decimal
    have h0x' : ∀ r, c :: cs ≠ '0' :: 'x' :: r := fun r e => h0x ⟨r, e⟩
    have hm : (LexSpec.digit c &&
        decide (LexSpec.value 10 ((c :: cs).takeWhile LexSpec.digit) 0 ≥ 4294967296)) = false := by
      unfold LexSpec.malformedAt at hmal
      split at hmal
      · rename_i r heq; exact absurd heq (h0x' r)
      · rename_i heq; cases heq; exact absurd rfl h2
      · rename_i heq; cases heq; exact hmal
      · rename_i heq; cases heq
    have hne : ((c :: cs).takeWhile isDigit).isEmpty = false := by rw [List.takeWhile, hd]; rfl
    simp only [LexSpec.decimal, funext digit_eq, value_takeWhile 10 isDigit fun c h => by rw [isHexDigit, h]; rfl,
      hd, Bool.true_and, decide_eq_false_iff_not, Nat.not_le, spec_hex_not0x c cs h0x', hne, Bool.false_eq_true,
      if_false, List.nil_append, List.append_nil, longest_single] at hl hm
    cases hl
    rw [lexHex_eq_none.mpr h0x']
    have hle : numVal 10 ((c :: cs).takeWhile isDigit) ≤ u32Max := by rw [u32Max]; omega
    simp only [lexInt, hne, Bool.false_eq_true, if_false, hle, if_true]

theorem char_step (cs : List Char) (hmal : LexSpec.malformedAt ('\'' :: cs) = false) (n : Nat) (ty : TokenType)
    (hl : LexSpec.longest (LexSpec.proposals ('\'' :: cs)) = some (n, ty)) :
    lexOne ('\'' :: cs) = some { ty := ty, n := n } := by
  -- evaluated: the alternatives that can start with a tick
  rw [lexOne_filter (l := [.char, .unknown]) (by decide +kernel), firstMatch, lexItem]
  rw [proposals_tick] at hl
  unfold LexSpec.charLit at hl
  split at hl
  · rename_i r heq
    cases heq
    cases hl
    rw [lexChar_esc]
    rfl
  · rename_i hnot c1 r heq
    cases heq
    cases hl
    rw [lexChar_plain c1 ('\'' :: r) (fun _ hr => by cases hr)]
    rfl
  · cases hl

theorem spec_comment_not (cs : List Char) (h : ∀ r, cs ≠ '/' :: r) : LexSpec.comment ('/' :: cs) = [] := by
  unfold LexSpec.comment
  split
  · rename_i r heq
    simp only [List.cons.injEq, true_and] at heq
    exact absurd heq (h r)
  · rfl

theorem slash_step (cs : List Char) (n : Nat) (ty : TokenType)
    (hl : LexSpec.longest (LexSpec.proposals ('/' :: cs)) = some (n, ty)) :
    lexOne ('/' :: cs) = some { ty := ty, n := n } := by
  rw [proposals_sym rfl, symbol_cons, show (symbolsAt '/').filterMap (symProp ('/' :: cs)) = [(1, .Divide)] from rfl] at hl
  -- evaluated: the alternatives that can start with `/`
  rw [lexOne_filter (l := [.comment, .symbol .Divide, .unknown]) (by decide +kernel), firstMatch, lexItem]
  by_cases hc : ∃ r, cs = '/' :: r
  · obtain ⟨r, rfl⟩ := hc
    have hspec : LexSpec.comment ('/' :: '/' :: r) = [((commentOut r).n, (commentOut r).ty)] := by
      simp only [LexSpec.comment, commentOut]
      split <;> rfl
    rw [hspec, List.singleton_append, longest_two _ _ (by simp only [commentOut]; split <;> omega)] at hl
    cases hl
    rw [lexComment_cons]
    rfl
  · have hc' : ∀ r, cs ≠ '/' :: r := fun r e => hc ⟨r, e⟩
    rw [spec_comment_not cs hc', List.nil_append, longest_single] at hl
    cases hl
    rw [lexComment_eq_none.mpr fun r e => hc' r (List.cons.inj e).2]
    rfl

theorem next_ok (d : Char) (r : List Char) (p : LexSpec.Proposal)
    (hl : LexSpec.longest (LexSpec.proposals (d :: r)) = some p) (ha : isAlnumTrunc d = true) :
    LexSpec.wordChar d = true := by
  apply Classical.byContradiction
  intro hw
  rw [Bool.not_eq_true, LexSpec.wordChar, letter_eq, digit_eq, Bool.or_eq_false_iff] at hw
  have h1 : d ≠ '/' := fun e => by rw [e] at ha; cases ha
  have h2 : d ≠ '\'' := fun e => by rw [e] at ha; cases ha
  have h0 : d ≠ '0' := fun e => by rw [e] at hw; cases hw.2
  -- evaluated: no symbol of the table starts with an `isAlnumTrunc` character
  rw [LexSpec.proposals, spec_comment_nil d r h1, symbol_class isAlnumTrunc (by decide +kernel) ha, spec_word_nil d r hw.1,
    spec_hex_nil d r h0, spec_decimal_nil d r hw.2, spec_char_nil d r h2] at hl
  cases hl

theorem ws_not_alnum (d : Char) (h : isSpace d = true) : isAlnumTrunc d = false := by
  simp only [isSpace, Bool.or_eq_true, beq_iff_eq] at h
  rcases h with ((h | h) | h) | h <;> subst h <;> decide

theorem go_succ {fuel : Nat} {c : Char} {cs : List Char} {off : Nat} {ts : List Token}
    (h : LexSpec.go (fuel + 1) (c :: cs) off = some ts) :
    if LexSpec.ws c then LexSpec.go fuel cs (off + c.utf8Size) = some ts
    else LexSpec.malformedAt (c :: cs) = false ∧ ∃ n ty ts',
      LexSpec.longest (LexSpec.proposals (c :: cs)) = some (n, ty) ∧
      LexSpec.go fuel ((c :: cs).drop n) (off + LexSpec.bytes ((c :: cs).take n)) = some ts' ∧
      ts = { ty := ty, range := ⟨off, off + LexSpec.bytes ((c :: cs).take n)⟩ } :: ts' := by
  rw [LexSpec.go] at h
  split
  · rwa [if_pos ‹_›] at h
  · rw [if_neg ‹_›] at h
    split at h
    · cases h
    · rename_i hmal
      split at h
      · cases h
      · rename_i n ty hl
        split at h
        · cases h
        · dsimp only at h
          split at h
          · cases h
          · rename_i ts' hgo
            cases h
            exact ⟨Bool.not_eq_true _ ▸ hmal, n, ty, ts', hl, hgo, rfl⟩

theorem go_next : ∀ (fuel : Nat) (r : List Char) (off : Nat) (ts : List Token),
    LexSpec.go fuel r off = some ts →
    ∀ d r', r = d :: r' → isAlnumTrunc d = true → LexSpec.wordChar d = true := by
  intro fuel r off ts h d r' hr ha
  subst hr
  cases fuel with
  | zero => cases h
  | succ fuel =>
    have := go_succ h
    split at this
    · rename_i hws
      rw [ws_eq] at hws
      rw [ws_not_alnum d hws] at ha
      cases ha
    · obtain ⟨_, n, ty, _, hl, _⟩ := this
      exact next_ok d r' (n, ty) hl ha

/-- **One token.**  Where the specification recognises a token at the start of a text that it goes
    on to accept, the model recognises the same token, without errors. -/
theorem step (c : Char) (cs : List Char) (hmal : LexSpec.malformedAt (c :: cs) = false)
    (n : Nat) (ty : TokenType) (hl : LexSpec.longest (LexSpec.proposals (c :: cs)) = some (n, ty))
    (hnext : ∀ d r, (c :: cs).drop n = d :: r → isAlnumTrunc d = true → LexSpec.wordChar d = true) :
    lexOne (c :: cs) = some { ty := ty, n := n } := by
  by_cases hslash : c = '/'
  · subst hslash
    exact slash_step cs n ty hl
  by_cases htick : c = '\''
  · subst htick
    exact char_step cs hmal n ty hl
  by_cases hdig : isDigit c = true
  · exact digit_step c cs hdig hmal n ty hl
  by_cases halpha : (isAlpha c || c == '_') = true
  · exact word_step c cs halpha n ty hl hnext
  -- a symbol, or nothing
  rw [Bool.not_eq_true] at hdig halpha
  have hw : wordStart c = false := by
    rw [wordStart, halpha, hdig, beq_eq_false_iff_ne.mpr htick]
    rfl
  by_cases hs : symOK c = true
  · exact sym_step hw hslash hs hl
  -- no class proposes for this character: evaluated, every symbol of the table starts with `/` or a character of `symOK`
  rw [proposals_sym hw, spec_comment_nil c cs hslash,
    symbol_class (fun c => !symOK c && c != '/') (by decide +kernel)
      (by rw [Bool.eq_false_iff.mpr hs, bne_iff_ne.mpr hslash]; rfl)] at hl
  cases hl

theorem go_conforms : ∀ (fuel : Nat) (s : List Char) (off : Nat) (ts : List Token),
    LexSpec.go fuel s off = some ts → ts = lexL s off ++ [eofToken (off + utf8Len s)] := by
  intro fuel
  induction fuel with
  | zero => exact fun _ _ _ h => nomatch h
  | succ fuel ih =>
    intro s off ts h
    cases s with
    | nil =>
      cases h
      rfl
    | cons c cs =>
      have := go_succ h
      split at this
      · rename_i hws
        rw [ih cs _ ts this, lexL_space (ws_eq c ▸ hws), utf8Len_cons, Nat.add_assoc]
      · rename_i hws
        obtain ⟨hmal, n, ty, ts', hl, hgo, rfl⟩ := this
        have hone := step c cs hmal n ty hl (go_next fuel _ _ ts' hgo)
        rw [lexL_token (ws_eq c ▸ Bool.not_eq_true _ ▸ hws) hone, ih _ _ ts' hgo, bytes_eq, Nat.add_assoc,
          utf8Len_take_drop]
        rfl

end Spl.Conform
