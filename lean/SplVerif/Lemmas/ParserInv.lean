/-
  Two things about the parsers of the fresh parse (`this = none`).  First the traversal: every parser satisfies the
  judgment `Walks` of `Lemmas/Total`, with `IdI`/`IdV`/`IdE`/`IdT`/`IdS`/`IdGD` of `Lemmas/Analyze` for the values, for
  every position predicate `G` that the token level keeps (`Leaves`); `G` = anywhere serves `Lemmas/IdOK` and the second
  half, `G` = directly behind a token serves `Lemmas/FreshEnd`.  Then, from `Contained` on, the declaration parsers
  and the declaration loop directly as `Res.Sat` statements: a declaration fails only where its keyword is missing and
  consumes no further `proc` / `type` keyword, which gives the totality results (no panic, the parse succeeds, every
  declaration keyword starts a declaration of the result).
-/
import SplVerif.Lemmas.Total
import SplVerif.Lemmas.Analyze

namespace Spl.Total
open Spl Spl.Parse Spl.AnalyzeTotal

variable (ctx : Ctx)

/-- what the traversal assumes of the positions at the token level; parsers that run behind documentation comments
    (`tkAny`, `skip1Any`) start anywhere -/
structure Leaves (ctx : Ctx) (G : Nat → Prop) : Prop where
  tk : ∀ k, k ≠ Kind.Comment → Stops ctx G G G (tk ctx k) anything
  tkAny : ∀ k, k ≠ Kind.Comment → Stops ctx anywhere G anywhere (Parse.tk ctx k) anything
  skip0 : ∀ m fuel, Stops ctx G G G (fun s => ignoreUntil0 ctx (peek (la ctx m)) fuel s.pos s) anything
  skip1 : ∀ m fuel, Stops ctx G G G (ignoreUntil1 ctx (peek (la ctx m)) fuel) anything
  skip1Any : ∀ m fuel, Stops ctx anywhere G anywhere (ignoreUntil1 ctx (peek (la ctx m)) fuel) anything

section
variable {ctx} {w : Prop} {n d : Nat} {fl : Prop} {S G E : Nat → Prop} {α β : Type}

theorem Leaves.tok (L : Leaves ctx G) (k : Kind) (hk : Plain k := by decide) : Walks ctx w n 1 True G G G (Parse.tk ctx k) anything :=
  walks_of (fun _ => runs_tk k hk) (L.tk k hk.2.2.2)

theorem Leaves.tokAny (L : Leaves ctx G) (k : Kind) (hk : Plain k := by decide) :
    Walks ctx w n 1 True anywhere G anywhere (Parse.tk ctx k) anything :=
  walks_of (fun _ => runs_tk k hk) (L.tkAny k hk.2.2.2)

theorem Leaves.toks (L : Leaves ctx G) (ks : List Kind) (hks : ∀ k ∈ ks, Plain k := by decide) :
    Walks ctx w n 1 True G G G (altList (ks.map (Parse.tk ctx))) anything :=
  Walks.altList (fun _ => id) _ (fun p hp => by
    obtain ⟨k, hk, rfl⟩ := List.mem_map.mp hp
    exact L.tok k (hks k hk))

theorem Leaves.expTok (L : Leaves ctx G) (k : Kind) (msg : Msg) (hk : Plain k := by decide) :
    Walks ctx w n 0 fl G G E (Parse.expect none (inc (Parse.tk ctx k)) msg) anything :=
  Walks.expectInc msg (L.tok k hk)

theorem Leaves.intLit (L : Leaves ctx G) : Walks ctx w n 1 True G G G (parseIntLiteral ctx none) anything :=
  Walks.node (Q := anything) _ (Walks.alt2 ((L.tok .Hex).pmap _ (fun _ _ => trivial))
    (Walks.alt2 ((L.tok .Char).pmap _ (fun _ _ => trivial)) ((L.tok .Int).pmap _ (fun _ _ => trivial)))) (fun _ _ _ => trivial)

/-- **`Identifier::parse` on a fresh parse only returns identifiers that cover a token**: `info` does not measure a range
    that starts in front of the reference position, and the token parser has moved on -/
theorem ident_idI (s : St) : (parseIdentifier ctx none s).Sat (fun _ i => IdI i) (fun _ _ => True) True := by
  refine (sat_pmap _ _ s).2 ?_
  rw [sat_info]
  split
  · trivial
  · next h0 =>
    refine (tag_sat (ctx := ctx) (loopFuel ctx) (fun ty => ty.kind == Kind.Ident) { s with errBuf := [] }).imp (fun s1 _ _ h => ?_)
      (fun _ _ _ _ => trivial) id
    split
    · trivial
    · show 0 < s1.pos - s.refPos
      have : s.pos < s1.pos := h.1
      omega

theorem Walks.val {p : P α} {Q Q' : α → Prop} (h : Walks ctx w n d fl S G E p Q) (hv : ∀ s, (p s).Sat (fun _ a => Q' a) (fun _ _ => True) True) :
    Walks ctx w n d fl S G E p Q' :=
  fun s hs => (h s hs).imp (fun _ _ e x => ⟨x.1, (hv s).of_ok e, x.2.2⟩) (fun _ _ _ x => x) id

theorem Leaves.identifier (L : Leaves ctx G) : Walks ctx w n 1 True G G G (parseIdentifier ctx none) IdI :=
  Walks.val (Q := anything) ((L.tok .Ident).node _ (fun _ _ _ => trivial)) ident_idI

theorem Leaves.identifierAny (L : Leaves ctx G) : Walks ctx w n 1 True anywhere G anywhere (parseIdentifier ctx none) IdI :=
  Walks.val (Q := anything) ((L.tokAny .Ident).node _ (fun _ _ _ => trivial)) ident_idI

theorem walks_docComments : Walks ctx w n 0 fl S anywhere anywhere (docComments ctx) anything :=
  walks_of (fun _ => runs_docComments) Stops.triv

/-- a look-ahead restores the input: a success stops where it started -/
theorem walks_peek {p : P α} (hr : ∀ m, Runs ctx m 0 True (peek p)) : Walks ctx w n 0 True G G anywhere (peek p) anything :=
  walks_of hr (stops_iff.2 fun s hs => (sat_peek p s).2 ((Res.sat_true _).imp (fun _ _ _ _ => ⟨hs, trivial⟩) (fun _ _ _ _ => trivial) id))

theorem Leaves.recover0 (L : Leaves ctx G) (m : LAName) :
    Walks ctx w n 0 False G G G (fun s => ignoreUntil0 ctx (peek (la ctx m)) (loopFuel ctx) s.pos s) anything :=
  walks_of (fun _ => runs_ignoreUntil0 m) (L.skip0 m _)

theorem Leaves.recover1 (L : Leaves ctx G) (m : LAName) :
    Walks ctx w n 1 True G G G (ignoreUntil1 ctx (peek (la ctx m)) (loopFuel ctx)) anything :=
  walks_of (fun _ => runs_ignoreUntil1 m) (L.skip1 m _)

theorem Leaves.recover1Any (L : Leaves ctx G) (m : LAName) :
    Walks ctx w n 1 True anywhere G anywhere (ignoreUntil1 ctx (peek (la ctx m)) (loopFuel ctx)) anything :=
  walks_of (fun _ => runs_ignoreUntil1 m) (L.skip1Any m _)

/-- a comma separated list fails only with its first element: every further one stands behind a consumed comma -/
theorem Walks.parseList {Q : α → Prop} (L : Leaves ctx G) (range : α → Range) {parseT : Option α → P α}
    (hp : Walks ctx w n d fl G G G (parseT none) Q) :
    Walks ctx w n d fl G G G (Parse.parseList ctx range parseT (loopFuel ctx) none) (fun l => ∀ r ∈ l, Q r.val) := by
  refine Walks.congr (parseList_eq ctx range parseT) (hp.refParse.bind (d' := 0) (fun head hh => ?_))
  refine (Walks.many (fl := True) (Q := fun (x : Ref α) => Q x.val) _ ((L.tok .Comma).seq
    (hp.budget (.inl (by omega))).weak.refParse)).pmap _ ?_
  intro tail ht r hr
  rcases List.mem_cons.mp hr with rfl | hr
  · exact hh
  · obtain ⟨x, hx, rfl⟩ := List.mem_map.mp hr
    exact ht x hx

end

section
variable {ctx} {w : Prop} {n d : Nat} {fl : Prop} {G E : Nat → Prop}

theorem Walks.opStep (L : Leaves ctx G) {ops : List Kind} {next : Operator → P Expr} {e : Expr} {Q : Expr → Prop}
    (hops : ∀ k ∈ ops, ∃ op, opOfKind k = some op) (hn : ∀ op, Walks ctx w (n - 1) d fl G G E (next op) Q) (he : Q e) :
    Walks ctx w n 0 fl G G E (opStep ctx ops next e) Q := by
  intro s hs
  refine (sat_opStep ops next e s).2 ((L.toks ops (fun k hk => plain_of_op (hops k hk)) s hs).imp (fun s1 t e1 h => ?_)
    (fun _ _ _ _ => ⟨hs, he, fun f => ⟨Post.refl ctx f.2.1, Nat.le_refl _⟩⟩) id)
  cases hop : opOfKind t.kind with
  | none =>
    intro f
    obtain ⟨op, h'⟩ := hops _ ((tks_kind ops s f.2.1).of_ok e1)
    rw [hop] at h'
    cases h'
  | some op => exact (hn op).after h.1 h.2.2 (Nat.zero_le _)

/-- the operator loops of `parse_mul` / `parse_add`: a round consumes its operator, so the right operand has `n - 1` -/
theorem Walks.opLoop (L : Leaves ctx G) {ops : List Kind} {rhs : Expr → Operator → P Expr} {Q : Expr → Prop}
    (hops : ∀ k ∈ ops, ∃ op, opOfKind k = some op) (hr : ∀ e op, Q e → Walks ctx w (n - 1) 0 True G G E (rhs e op) Q) :
    ∀ (fuel : Nat) (e : Expr), Q e → Walks ctx w (min n fuel) 0 True G G E (Parse.opLoop ctx ops rhs fuel e) Q
  | 0, _, _ => fun _ _ f => absurd f.2.2 (by omega)
  | fuel + 1, e, he =>
    Walks.congr (opLoop_succ ops rhs fuel e) (Walks.opStep L hops (fun op => ((hr e op he).budget (.inl (by omega))).bind
      (fun e' he' => (Walks.opLoop L hops hr fuel e' he').budget (.inl (by omega)))) he)

theorem idE_getD (o : Option Expr) (d : AstInfo) (h : ∀ x, o = some x → IdE x) : IdE (o.getD (.error d)) := by
  cases o with
  | none => trivial
  | some x => exact h x rfl

/-- `parse_rhs` measures the end of the binary expression against the reference position -/
theorem Walks.parseRhs {parser : P Expr} (lhs : Expr) (op : Operator) (hp : Walks ctx w n d fl G G G parser IdE) (hl : IdE lhs) :
    Walks ctx w n 0 True G G E (Parse.parseRhs parser lhs op) IdE := by
  intro s hs
  have h := Walks.expect (E := E) (fl' := True) (parser := inc parser) (.ExpectedToken (chars "expression")) hp s hs
  unfold Parse.parseRhs
  generalize Parse.expect none (inc parser) (.ExpectedToken (chars "expression")) s = res at h ⊢
  cases res with
  | ok s1 r =>
    show Res.Sat _ _ _ (if s1.pos < s1.refPos then _ else _)
    split
    · next hlt => exact fun f => absurd ((h.2.2 f).1.wf ctx f.2.1).1 (Nat.not_le.2 hlt)
    · exact ⟨h.1, ⟨hl, idE_getD r _ h.2.1⟩, h.2.2⟩
  | err k x => exact h
  | panic x => exact h

theorem access_walks (L : Leaves ctx G) {pe : Option (Ref Expr) → P (Ref Expr)}
    (hp : Walks ctx w (n - 1) 0 True G G G (pe none) (fun x => IdE x.val)) :
    Walks ctx w n 1 True G G G (accessParser ctx pe) (fun r => ∀ x, r.1 = some x → IdE x.val) :=
  Walks.info (Q := fun (o : Option (Ref Expr)) => ∀ x, o = some x → IdE x.val) ((L.tok .LBracket).seq
    ((Walks.expect _ hp).bind (fun _ hidx => (L.expTok .RBracket _).seq (Walks.pure hidx))))

theorem idV_fold (vi : AstInfo) : ∀ (l : List (Option (Ref Expr) × AstInfo)) (v : Var), IdV v →
    (∀ a ∈ l, ∀ x, a.1 = some x → IdE x.val) → IdV (l.foldl (accessStep vi) v)
  | [], v, hv, _ => hv
  | a :: l, v, hv, h => by
    refine idV_fold vi l _ ⟨hv, ?_⟩ (fun b hb => h b (List.mem_cons_of_mem _ hb))
    have ha := h a (List.mem_cons_self ..)
    obtain ⟨o, i⟩ := a
    cases o with
    | none => trivial
    | some x => exact ha x rfl

/-- eight levels of recursive descent per remaining token -/
structure EWalks (ctx : Ctx) (w : Prop) (G : Nat → Prop) (F : Nat) : Prop where
  var : ∀ n, 8 * n + 2 ≤ F + 8 → Walks ctx w n 1 True G G G (parseVariable ctx F none) IdV
  brack : ∀ n, 8 * n + 2 ≤ F + 8 → Walks ctx w n 0 True G G G (parseBracketed ctx F) IdE
  prim : ∀ n, 8 * n + 3 ≤ F + 8 → Walks ctx w n 0 True G G G (parsePrimary ctx F) IdE
  unary : ∀ n, 8 * n + 3 ≤ F + 8 → Walks ctx w n 0 True G G G (parseUnary ctx F) IdE
  factor : ∀ n, 8 * n + 4 ≤ F + 8 → Walks ctx w n 0 True G G G (parseFactor ctx F) IdE
  mul : ∀ n, 8 * n + 5 ≤ F + 8 → Walks ctx w n 0 True G G G (parseMul ctx F) IdE
  add : ∀ n, 8 * n + 6 ≤ F + 8 → Walks ctx w n 0 True G G G (parseAdd ctx F) IdE
  cmp : ∀ n, 8 * n + 7 ≤ F + 8 → Walks ctx w n 0 True G G G (parseComparison ctx F) IdE
  expr : ∀ n, 8 * n + 8 ≤ F + 8 → Walks ctx w n 0 True G G G (parseExpression ctx F none) IdE

/-- every recursive call sits one level down and, where the level count goes up again (an index, a bracketed or
    negated operand), behind a consumed token, which is worth eight levels -/
theorem ewalks (L : Leaves ctx G) : ∀ F, EWalks ctx w G F
  | 0 => by
    refine ⟨?_, ?_, ?_, ?_, ?_, ?_, ?_, ?_, ?_⟩ <;> exact fun n hn _ _ f => absurd f.2.2 (by omega)
  | F + 1 => by
    have ih := ewalks L F
    have loop : ∀ {n} {p : P Expr}, Walks ctx w (n - 1) 0 True G G G p IdE → ∀ ops, (∀ k ∈ ops, ∃ op, opOfKind k = some op) →
        ∀ e, IdE e → Walks ctx w n 0 True G G G (Parse.opLoop ctx ops (Parse.parseRhs p) (loopFuel ctx) e) IdE :=
      fun hp ops hops e he => (Walks.opLoop L hops (fun e op he => Walks.parseRhs e op hp he) _ e he).mono
        (fun s f => ⟨f.1, f.2.1, Nat.lt_min.2 ⟨f.2.2, loopFuel_ok ctx s f.2.1⟩⟩) (Nat.le_refl _) id (fun _ => id) (fun _ => id)
        (fun _ => id) (fun _ => id)
    refine ⟨fun n hn => ?_, fun n hn => ?_, fun n hn => ?_, fun n hn => ?_, fun n hn => ?_, fun n hn => ?_, fun n hn => ?_,
      fun n hn => ?_, fun n hn => ih.cmp n (by omega)⟩
    · refine Walks.congr (parseVariable_eq ctx F) ((L.identifier.pmap Var.named (R := IdV) (fun _ h => h)).info.bind (d' := 0) (fun r hr => ?_))
      exact (Walks.many0 (access_walks L (ih.expr (n - 1 - 1) (by omega)).refParse)).pmap _ (fun l hl => idV_fold _ l _ hr hl)
    · exact (Walks.congr (parseBracketed_eq ctx F) (Walks.node _ (Q := fun r => ∀ x, r.2 = some x → IdE x)
        ((L.tok .LParen).info.bind (fun lp _ => (Walks.expect (parser := inc (parseComparison ctx F)) _ (ih.cmp (n - 1) (by omega))).bind
          (fun e he => (L.expTok .RParen _).seq (Walks.pure he)))) (fun a i h => idE_getD a.2 _ h))).weak
    · exact Walks.alt2 (L.intLit.weak.pmap _ (fun _ h => h)) (Walks.alt2 ((ih.var n (by omega)).weak.pmap _ (fun _ h => h))
        (ih.brack n (by omega)))
    · exact (Walks.node _ ((L.tok .Minus).seq (ih.factor (n - 1) (by omega))) (fun _ _ h => h)).weak
    · exact Walks.alt2 (ih.prim n (by omega)) (ih.unary n (by omega))
    · exact (ih.factor n (by omega)).bind (fun e he => loop (ih.factor (n - 1) (by omega)) _ (ops_ok rfl) e he)
    · exact (ih.mul n (by omega)).bind (fun e he => loop (ih.mul (n - 1) (by omega)) _ (ops_ok rfl) e he)
    · exact (ih.add n (by omega)).bind (fun e he => Walks.opStep L (ops := [Kind.Eq, .Neq, .Le, .Lt, .Ge, .Gt]) (ops_ok rfl)
        (fun op => Walks.parseRhs e op (ih.add (n - 1) (by omega)) he) he)

theorem Leaves.expression (L : Leaves ctx G) : Walks ctx w n 0 True G G G (parseExpression ctx (exprFuel ctx) none) IdE :=
  ((ewalks L _).expr (ctx.toks.size + 1) (by simp only [exprFuel]; omega)).budget (.inr (Nat.lt_succ_self _))

theorem Leaves.variable (L : Leaves ctx G) : Walks ctx w n 1 True G G G (parseVariable ctx (exprFuel ctx) none) IdV :=
  ((ewalks L _).var (ctx.toks.size + 1) (by simp only [exprFuel]; omega)).budget (.inr (Nat.lt_succ_self _))

theorem Leaves.refExpr (L : Leaves ctx G) : Walks ctx w n 0 True G G G (refExpr ctx none) (fun r => IdE r.val) := L.expression.refParse

theorem idOT_ofOption (o : Option (Ref TypeExpr)) (h : ∀ r, o = some r → IdT r.val) : IdOT (OptType.ofOption o) := by
  cases o with
  | none => trivial
  | some r => exact h r rfl

/-- two levels of recursive descent per remaining token -/
structure TWalks (ctx : Ctx) (w : Prop) (G : Nat → Prop) (F : Nat) : Prop where
  te : ∀ n, 2 * n ≤ F → Walks ctx w n 1 True G G G (parseTypeExpr ctx F none) IdT
  arr : ∀ n, 2 * n ≤ F + 1 → Walks ctx w n 1 True G G G (parseArrayType ctx F none) IdT

theorem twalks (L : Leaves ctx G) : ∀ F, TWalks ctx w G F
  | 0 => ⟨fun n hn _ _ f => absurd f.2.2 (by omega), fun n hn _ _ f => absurd f.2.2 (by omega)⟩
  | F + 1 => by
    have ih := twalks L F
    refine ⟨fun n hn => Walks.alt2 (ih.arr n hn) (L.identifier.pmap _ (fun _ h => h)), fun n hn => ?_⟩
    refine Walks.node _ (p := arrayTypeInner ctx none none _) (Q := fun r => ∀ x, r.2 = some x → IdT x.val) ?_
      (fun a i h => idOT_ofOption _ h)
    exact (L.tok .Array).seq ((L.expTok .LBracket _).seq ((Walks.expect _ L.intLit).bind (fun _ _ =>
      (L.expTok .RBracket _).seq ((L.expTok .Of _).seq ((Walks.expect _ (ih.te (n - 1) (by omega)).weak.refParse).bind
        (fun _ hb => Walks.pure hb))))))

theorem Leaves.refTypeExpr (L : Leaves ctx G) : Walks ctx w n 1 True G G G (refTypeExpr ctx none) (fun r => IdT r.val) :=
  (((twalks L _).te (ctx.toks.size + 1) (by simp only [typeFuel]; omega)).budget (.inr (Nat.lt_succ_self _))).refParse

end

section
variable {ctx} {w : Prop} {n : Nat} {fl : Prop} {G E : Nat → Prop}

theorem argument_walks (L : Leaves ctx G) : Walks ctx w n 0 False G G G (parseArgument ctx none) IdE :=
  Walks.alt2 (L.expression.anyErr.bind (fun _ he => (walks_peek (fun _ => runs_peekla .arg)).seq (Walks.pure he)))
    (Walks.node _ (L.recover0 .arg) (fun _ _ _ => trivial))

theorem Leaves.emptyList {α} (L : Leaves ctx G) (k1 k2 k3 : Kind) {Q : α → Prop} :
    Walks ctx w n 0 True G G anywhere
      (pmap (fun _ => ([] : List α)) (peek (altList [void (Parse.tk ctx k1), void (Parse.tk ctx k2), void (Parse.tk ctx k3)])))
      (fun l => ∀ r ∈ l, Q r) :=
  (walks_peek (fun _ => runs_peekTks [k1, k2, k3])).pmap _ (fun _ _ _ hr => nomatch hr)

theorem call_walks (L : Leaves ctx G) : Walks ctx w n 1 True G G G (parseCall ctx none) IdCall := by
  refine Walks.node _ (p := callInner ctx none none) (Q := fun r => ∀ a ∈ r.2, IdE a.val) ?_ (fun _ _ h => h)
  refine (L.identifier.bind (fun _ _ => (L.tok .LParen).weak.seq (Walks.pure trivial))).bind (Q := anything) (d' := 0) (fun _ _ => ?_)
  refine (Walks.alt2 (L.emptyList .RParen .Semic .Eof) (Walks.parseList L _ (argument_walks L)).weak).bind (d' := 0) (fun _ ha => ?_)
  exact (L.expTok .RParen _).seq ((L.expTok .Semic _).seq (Walks.pure ha))

theorem assignment_walks (L : Leaves ctx G) : Walks ctx w n 1 True G G G (parseAssignment ctx none) IdAssign := by
  refine Walks.node _ (p := assignInner ctx none none) (Q := fun r => IdV r.1 ∧ ∀ x, r.2 = some x → IdE x.val) ?_ (fun _ _ h => h)
  refine (L.variable.bind (fun _ hv => (Walks.alt2 (L.tok .Assign) ((L.tok .Eq).confusable _)).weak.seq
    (Walks.pure hv))).bind (d' := 0) (fun _ hv => ?_)
  exact (Walks.expect _ L.refExpr).bind (fun _ he => (L.expTok .Semic _).seq (Walks.pure ⟨hv, he⟩))

theorem idOS_ofOption (o : Option (Ref Stmt)) (h : ∀ r, o = some r → IdS r.val) : IdOS (OptStmt.ofOption o) := by
  cases o with
  | none => trivial
  | some r => exact h r rfl

theorem idSL_ofList : ∀ (l : List (Ref Stmt)), (∀ r ∈ l, IdS r.val) → IdSL (StmtList.ofList l)
  | [], _ => trivial
  | r :: l, h => ⟨h r (List.mem_cons_self ..), idSL_ofList l (fun x hx => h x (List.mem_cons_of_mem _ hx))⟩

/-- the error statement: on failure the input is handed back as it was -/
theorem stmtParseError_walks (L : Leaves ctx G) : Walks ctx w n 1 True G G G (stmtParseError ctx) IdS := by
  have hv : ∀ s, (stmtParseError ctx s).Sat (fun _ a => IdS a) (fun _ _ => True) True := by
    intro s
    unfold stmtParseError
    split
    · trivial
    · exact (sat_pmap _ _ s).2 ((Res.sat_true _).imp (fun _ _ _ _ => trivial) (fun _ _ _ _ => trivial) id)
  refine Walks.val (Q := anything) (fun s hs => ?_) hv
  have h := fun (F : List Token × AstInfo → Stmt) => Walks.node (w := w) (n := n) (d := 1) (R := anything) F (walks_docComments.seq (L.recover1Any .stmt))
    (fun _ _ _ => trivial) s hs
  unfold stmtParseError
  split
  · next k x heq => exact ⟨hs, fun f => ⟨(((h _).of_err heq).2 f).1, Post.refl ctx f.2.1, fun _ => trivial⟩⟩
  · next hne => exact (h _).imp (fun _ _ _ x => x) (fun k x e _ => (hne k x e).elim) id

/-- two levels of recursive descent per remaining token; every statement consumes a token -/
structure SWalks (ctx : Ctx) (w : Prop) (G : Nat → Prop) (F : Nat) : Prop where
  stmt : ∀ n, 2 * n ≤ F → Walks ctx w n 1 True G G G (parseStmt ctx F none) IdS
  iff : ∀ n, 2 * n ≤ F + 1 → Walks ctx w n 1 True G G G (parseIf ctx F none) IdS
  whl : ∀ n, 2 * n ≤ F + 1 → Walks ctx w n 1 True G G G (parseWhile ctx F none) IdS
  blk : ∀ n, 2 * n ≤ F + 1 → Walks ctx w n 1 True G G G (parseBlock ctx F none) IdS

theorem swalks (L : Leaves ctx G) : ∀ F, SWalks ctx w G F
  | 0 => by refine ⟨?_, ?_, ?_, ?_⟩ <;> exact fun n hn _ _ f => absurd f.2.2 (by omega)
  | F + 1 => by
    have ih := swalks L F
    refine ⟨fun n hn => ?_, fun n hn => ?_, fun n hn => ?_, fun n hn => ?_⟩
    · exact Walks.alt2 (Walks.node _ (L.tok .Semic) (fun _ _ _ => trivial)) (Walks.alt2 (ih.iff n (by omega)) (Walks.alt2 (ih.whl n (by omega))
        (Walks.alt2 (ih.blk n (by omega)) (Walks.alt2 ((call_walks L).pmap _ (fun _ h => h))
          (Walks.alt2 ((assignment_walks L).pmap _ (fun _ h => h)) (stmtParseError_walks L))))))
    · have hps := (ih.stmt (n - 1) (by omega)).weak.refParse
      refine Walks.node _ (p := ifInner ctx none none none _) (Q := fun r => (∀ x, r.1 = some x → IdE x.val) ∧
          (∀ x, r.2.1 = some x → IdS x.val) ∧ (∀ x, r.2.2.getD none = some x → IdS x.val)) ?_
        (fun _ _ h => ⟨h.1, idOS_ofOption _ h.2.1, idOS_ofOption _ h.2.2⟩)
      exact (L.tok .If).seq ((L.expTok .LParen _).seq ((Walks.expect _ L.refExpr).bind (fun _ hc =>
        (L.expTok .RParen _).seq ((Walks.expect _ hps).bind (fun _ ht => Walks.bind
          (Walks.opt ((L.tok .Else).seq (Walks.expect _ (hps.budget (.inl (by omega))))) (fun _ hx => nomatch hx))
          (fun _ he => Walks.pure ⟨hc, ht, he⟩))))))
    · refine Walks.node _ (p := whileInner ctx none none _) (Q := fun r => (∀ x, r.1 = some x → IdE x.val) ∧
          (∀ x, r.2 = some x → IdS x.val)) ?_ (fun _ _ h => ⟨h.1, idOS_ofOption _ h.2⟩)
      exact (L.tok .While).seq ((L.expTok .LParen _).seq ((Walks.expect _ L.refExpr).bind (fun _ hc =>
        (L.expTok .RParen _).seq ((Walks.expect _ (ih.stmt (n - 1) (by omega)).weak.refParse).bind (fun _ ht => Walks.pure ⟨hc, ht⟩)))))
    · refine Walks.node _ (p := blockInner ctx none _) (Q := fun l => ∀ r ∈ l, IdS r.val) ?_ (fun _ _ h => idSL_ofList _ h)
      exact (L.tok .LCurly).seq ((Walks.many _ (ih.stmt (n - 1) (by omega))).bind (fun _ hss => (L.expTok .RCurly _).seq (Walks.pure hss)))

theorem Leaves.stmt (L : Leaves ctx G) : Walks ctx w n 1 True G G G (parseStmt ctx (stmtFuel ctx) none) IdS :=
  ((swalks L _).stmt (ctx.toks.size + 1) (by simp only [stmtFuel]; omega)).budget (.inr (Nat.lt_succ_self _))

theorem Leaves.declTail (L : Leaves ctx G) (k k1 k2 : Kind) (m1 m2 m3 : Msg) (doc : List (List Char))
    (hk : Plain k := by decide) (hk1 : Plain k1 := by decide) (hk2 : Plain k2 := by decide) :
    Walks ctx w n 0 fl G G E (declTail ctx k k1 k2 m1 m2 m3 doc)
      (fun r => (∀ n, r.2.1 = some n → IdI n) ∧ (∀ x, r.2.2 = some x → IdT x.val)) :=
  (Walks.expect _ L.identifier).bind (fun name hn =>
    (Walks.expectInc m3 (Walks.alt2 (L.tok k hk) (Walks.alt2 ((L.tok k1 hk1).confusable m1) ((L.tok k2 hk2).confusable m2)))).seq
    ((Walks.expect _ L.refTypeExpr).bind (fun te ht => (L.expTok .Semic _).seq (Walks.pure ⟨hn, ht⟩))))

theorem varDecl_walks (L : Leaves ctx G) : Walks ctx w n 1 True G G G (parseVarDecl ctx none) IdVarD :=
  Walks.alt2 (Walks.node _ (p := varDeclInner ctx none none) (walks_docComments.bind (fun doc _ => (L.tokAny .Var).seq
      (L.declTail (fl := True) (E := anywhere) .Colon .Assign .Eq _ _ _ doc))) (fun _ _ h => h))
    (Walks.node _ (L.recover1 .var_dec) (fun _ _ _ => trivial))

theorem paramDecl_walks (L : Leaves ctx G) : Walks ctx w n 0 False G G G (parseParamDecl ctx none) IdParam := by
  refine Walks.alt2 (fl' := True) (E' := anywhere) (Walks.node _ (p := paramDeclInner ctx none none) (Q := fun r => (∀ n, r.2.1.2 = some n → IdI n) ∧
    (∀ x, r.2.2 = some x → IdT x.val)) ?_ (fun _ _ h => h)) (Walks.node _ (L.recover0 .param_dec) (fun _ _ _ => trivial))
  refine (walks_docComments (fl := True)).bind (d' := 0) (fun doc _ => Walks.bind (d := 0) (Q := fun rn => ∀ n, rn.2 = some n → IdI n) ?_
    (fun _ hn => (L.expTok .Colon _).seq ((Walks.expect _ L.refTypeExpr).bind (fun _ ht =>
      (walks_peek (fun _ => runs_peekla .param_dec)).seq (Walks.pure ⟨hn, ht⟩)))))
  exact Walks.alt2 ((L.tokAny .Ref).weak.seq ((Walks.expect _ L.identifier).pmap _ (fun _ h => h)))
    (L.identifierAny.weak.pmap _ (fun _ hn _ hx => Option.some.inj hx ▸ hn))

/-- `ProcedureDeclaration::parse` is documentation comments, the keyword and a tail.  In front of the final `Eof` nothing
    in the tail fails: everything is an `expect`, a loop over elements that consume a token, or the parameter list,
    whose recovery finds a synchronisation token -/
theorem procTail_walks (ctx : Ctx) : ∃ tail : List (List Char) → P (List (List Char) × Option Identifier × List (Ref ParamDecl) ×
      List (Ref VarDecl) × List (Ref Stmt)), procDeclInner ctx none =
      Parse.bind (docComments ctx) (fun doc => Parse.bind (Parse.tk ctx .Proc) (fun _ => tail doc)) ∧
    ∀ {w : Prop} {n : Nat} {G : Nat → Prop}, Leaves ctx G → ∀ doc, Walks ctx w n 0 False G G G (tail doc)
      (fun r => (∀ n, r.2.1 = some n → IdI n) ∧ (∀ p ∈ r.2.2.1, IdParam p.val) ∧
        (∀ v ∈ r.2.2.2.1, IdVarD v.val) ∧ (∀ x ∈ r.2.2.2.2, IdS x.val)) :=
  ⟨_, rfl, fun L _ => (Walks.expect _ L.identifier).bind (fun _ hn => (L.expTok .LParen _).seq (Walks.bind
    (Walks.alt2 (L.emptyList .RParen .LCurly .Eof) (Walks.parseList L _ (paramDecl_walks L))) (fun _ hp =>
    (L.expTok .RParen _).seq ((L.expTok .LCurly _).seq
      ((Walks.many _ (varDecl_walks L)).bind (fun _ hv => (Walks.many _ L.stmt).bind (fun _ hs =>
        (L.expTok .RCurly _).seq (Walks.pure ⟨hn, hp, hv, hs⟩))))))))⟩

end


section
variable {ctx} {G : Nat → Prop}

theorem typeDecl_stops (L : Leaves ctx G) : Stops ctx G G anywhere (parseTypeDecl ctx none) IdTD :=
  Walks.node _ (p := typeDeclInner ctx none none) (walks_docComments.bind (fun doc _ => (L.tkAny .Type (by decide)).seq
    (L.declTail .Eq .Assign .Colon _ _ _ doc))) (fun _ _ h => h)

theorem procDecl_stops (L : Leaves ctx G) : Stops ctx G G anywhere (parseProcDecl ctx none) IdPD := by
  obtain ⟨tail, e, h⟩ := procTail_walks ctx
  have key : Stops ctx G G anywhere (Parse.bind (docComments ctx) (fun doc => Parse.bind (Parse.tk ctx .Proc) (fun _ => tail doc))) _ :=
    walks_docComments.bind (fun doc _ => (L.tkAny .Proc (by decide)).seq (h (w := False) (n := 0) L doc).stops.anyErr)
  rw [← e] at key
  exact Walks.node _ key (fun _ _ h => h)

theorem globalDecl_stops (L : Leaves ctx G) : Stops ctx G G G (parseGlobalDecl ctx none) IdGD :=
  Walks.alt2 ((typeDecl_stops L).pmap _ (fun _ h => h)) (Walks.alt2 ((procDecl_stops L).pmap _ (fun _ h => h))
    (Walks.node _ (L.recover1 (w := False) (n := 0) .global_dec).stops (fun _ _ _ => trivial)))

end

/-- no claim on positions -/
theorem leavesAny : Leaves ctx anywhere :=
  ⟨fun _ _ => Stops.triv, fun _ _ => Stops.triv, fun _ _ => Stops.triv, fun _ _ => Stops.triv, fun _ _ => Stops.triv⟩

/-- the fuel each expression parser needs: eight levels per remaining token -/
structure ESafe (F : Nat) : Prop where
  expr : ∀ s, WF ctx s → 8 * (ctx.toks.size - s.pos) + 8 ≤ F → Safe ctx (parseExpression ctx F none) s
  cmp : ∀ s, WF ctx s → 8 * (ctx.toks.size - s.pos) + 7 ≤ F → Safe ctx (parseComparison ctx F) s
  add : ∀ s, WF ctx s → 8 * (ctx.toks.size - s.pos) + 6 ≤ F → Safe ctx (parseAdd ctx F) s
  mul : ∀ s, WF ctx s → 8 * (ctx.toks.size - s.pos) + 5 ≤ F → Safe ctx (parseMul ctx F) s
  factor : ∀ s, WF ctx s → 8 * (ctx.toks.size - s.pos) + 4 ≤ F → Safe ctx (parseFactor ctx F) s
  primary : ∀ s, WF ctx s → 8 * (ctx.toks.size - s.pos) + 3 ≤ F → Safe ctx (parsePrimary ctx F) s
  unary : ∀ s, WF ctx s → 8 * (ctx.toks.size - s.pos) + 3 ≤ F → Safe ctx (parseUnary ctx F) s
  var : ∀ s, WF ctx s → 8 * (ctx.toks.size - s.pos) + 2 ≤ F → Safe ctx (parseVariable ctx F none) s
  bracketed : ∀ s, WF ctx s → 8 * (ctx.toks.size - s.pos) + 2 ≤ F → Safe ctx (parseBracketed ctx F) s


theorem esafe (F : Nat) : ESafe ctx F :=
  have h := ewalks (w := True) (leavesAny ctx) F
  -- a state fits the budget `n` = one more than its remaining tokens
  have fits : ∀ {α} {p : P α} {Q : α → Prop} {d c : Nat},
      (∀ n, 8 * n + c ≤ F + 8 → Walks ctx True n d True anywhere anywhere anywhere p Q) →
      ∀ s, WF ctx s → 8 * (ctx.toks.size - s.pos) + c ≤ F → Safe ctx p s :=
    fun hp s hw hf => (hp (ctx.toks.size - s.pos + 1) (by omega)).safe hw (Nat.lt_succ_self _)
  ⟨fits h.expr, fits h.cmp, fits h.add, fits h.mul, fits h.factor, fits h.prim, fits h.unary, fits h.var, fits h.brack⟩

/-- a statement that is parsed consumes at least one token -/
theorem stmt_strict : ∀ (F : Nat) (s : St), WF ctx s → 2 * (ctx.toks.size - s.pos) + 2 ≤ F → Strict (parseStmt ctx F none) s :=
  fun F s hw hf => ((swalks (leavesAny ctx) F).stmt (ctx.toks.size - s.pos + 1) (by omega)).strict hw (Nat.lt_succ_self _)

theorem varDecl_strict (s : St) (hw : WF ctx s) : Strict (parseVarDecl ctx none) s :=
  (varDecl_walks (n := ctx.toks.size - s.pos + 1) (leavesAny ctx)).strict hw (Nat.lt_succ_self _)

/-- what a global declaration consumes: comments, one token, then no `proc` / `type` keyword -/
def Contained (s s' : St) : Prop :=
  ∃ j, s.pos ≤ j ∧ j < s'.pos ∧ Comments ctx s.pos j ∧
    ∀ i t, j < i → i < s'.pos → ctx.toks[i]? = some t → t.kind ≠ Kind.Proc ∧ t.kind ≠ Kind.Type

def DeclOk (s s' : St) : Prop := (PostK ctx s s' ∧ s.pos + 1 ≤ s'.pos) ∧ Contained ctx s s'

/-- `expect` hands on every failure of its parser as `none`: it never fails, in any state -/
theorem expect_noerr {α} (this : Option α) (parser : Option α → P α) (msg : Msg) (s : St) : NoErr (Parse.expect this parser msg) s := by
  intro k x h
  unfold Parse.expect at h
  split at h
  · cases h
  · cases h
  · split at h
    · cases h
    · cases h
    · rename_i s2 _
      by_cases hlt : s2.pos < s2.refPos <;> simp only [expectError, hlt, if_true, if_false] at h <;> cases h
  · rename_i s1 _
    by_cases hlt : s1.pos < s1.refPos <;> simp only [expectError, hlt, if_true, if_false] at h <;> cases h

theorem noerr_bind {α β} {p : P α} {f : α → P β} {s : St} (hp : NoErr p s)
    (hf : ∀ s1 a, NoErr (f a) s1) : NoErr (Parse.bind p f) s :=
  noerr_iff.2 ((sat_bind p f s).2 ((noerr_iff.1 hp).imp (fun s1 a _ _ => noerr_iff.1 (hf s1 a)) (fun _ _ _ h => h) id))

theorem declTail_noerr (k k1 k2 : Kind) (m1 m2 m3 : Msg) (doc : List (List Char)) (s : St) :
    NoErr (declTail ctx k k1 k2 m1 m2 m3 doc) s :=
  noerr_bind (expect_noerr _ _ _ _) fun _ _ => noerr_bind (expect_noerr _ _ _ _) fun _ _ =>
    noerr_bind (expect_noerr _ _ _ _) fun _ _ => noerr_bind (expect_noerr _ _ _ _) fun _ _ => nofun

/-- documentation comments, the declaration's own keyword, then a clean tail: where the tail cannot fail, a failure is a
    missing keyword -/
theorem doctk_sat {β} (k : Kind) {tail : List (List Char) → Token → P β} {fl : Prop} {s : St} {j : Nat} (hw : WF ctx s)
    (hj : Skips ctx s.pos j) (hk : k ≠ Kind.Eof) {G E : Nat → Prop} {Q : β → Prop}
    (hf : ∀ doc t, Walks ctx True (ctx.toks.size + 1) 0 fl anywhere G E (tail doc t) Q) :
    (Parse.bind (docComments ctx) (fun doc => Parse.bind (tk ctx k) (tail doc)) s).Sat
      (fun s' _ => DeclOk ctx s s')
      (fun b x => b = false ∧ PostK ctx s x ∧ ((∀ s2 doc t, NoErr (tail doc t) s2) ∨ InFront ctx s ∧ ¬ fl →
        ∀ t, ctx.toks[j]? = some t → t.kind ≠ k)) False := by
  obtain ⟨doc, hd⟩ := docComments_eq ctx hw hj
  have p1 := skips_post ctx hw hj
  rw [sat_bind, hd]
  show (Parse.bind (tk ctx k) (tail doc) { s with pos := j }).Sat _ _ _
  refine (sat_bind _ _ _).2 ((tk_sat_at ctx (p1.wf ctx hw) hj.here k).imp (fun s1 t _ ⟨ht, hp, e1⟩ => ?_)
    (fun _ _ _ y => ⟨y.1, p1.k.trans ctx y.2.1.k, fun _ => y.2.2⟩) id)
  have p2 : PostK ctx s { s with pos := j + 1 } := p1.k.trans ctx (step_postK ctx (s := { s with pos := j }) ht
    (fun he hq => hk (hp.symm.trans (he.at_last ctx ht hq))))
  rw [e1]
  refine ((hf doc t).sat (p2.wf ctx hw) (Nat.lt_succ_of_le (Nat.sub_le _ _))).imp (fun s' _ _ y => ?_)
    (fun k' x e3 y => ⟨y.1, p2.trans ctx y.2.1.k, fun hn => ?_⟩) id
  · have p3 : Post ctx { s with pos := j + 1 } s' := y.1
    exact ⟨⟨p2.trans ctx p3.k, Nat.le_trans (Nat.succ_le_succ hj.le) p3.1⟩, j, hj.le, p3.1, skips_comments ctx hj, p3.2.2.2.2⟩
  · rcases hn with hn | ⟨hi, nfl⟩
    · exact absurd e3 (hn _ doc t k' x)
    · exact absurd (y.2.2 (p2.inFront hi)) nfl

theorem typeDeclInner_sat {s : St} {j : Nat} (hw : WF ctx s) (hj : Skips ctx s.pos j) : (typeDeclInner ctx none none s).Sat
    (fun s' _ => DeclOk ctx s s')
    (fun b x => b = false ∧ PostK ctx s x ∧ ∀ t, ctx.toks[j]? = some t → t.kind ≠ Kind.Type) False :=
  (doctk_sat ctx .Type hw hj (by decide) (fun doc _ => (leavesAny ctx).declTail (fl := True) (E := anywhere) .Eq .Assign .Colon _ _ _ doc)).imp (fun _ _ _ y => y)
    (fun _ _ _ y => ⟨y.1, y.2.1, y.2.2 (Or.inl fun _ _ _ => declTail_noerr ctx _ _ _ _ _ _ _ _)⟩) id

theorem procDeclInner_sat {s : St} {j : Nat} (hw : WF ctx s) (hj : Skips ctx s.pos j) : (procDeclInner ctx none s).Sat
    (fun s' _ => DeclOk ctx s s')
    (fun b x => b = false ∧ PostK ctx s x ∧ (InFront ctx s → ∀ t, ctx.toks[j]? = some t → t.kind ≠ Kind.Proc)) False := by
  obtain ⟨tail, e, h⟩ := procTail_walks ctx
  rw [e]
  exact (doctk_sat ctx .Proc hw hj (by decide) (fun doc _ => h (leavesAny ctx) doc)).imp (fun _ _ _ y => y)
    (fun _ _ _ y => ⟨y.1, y.2.1, fun hi => y.2.2 (Or.inr ⟨hi, id⟩)⟩) id

/-- where the first token behind the comments is not `k`, the token parser for `k` fails behind the comments -/
theorem kw_missing {s : St} {j : Nat} {k : Kind} (hw : WF ctx s) (hj : Skips ctx s.pos j)
    (h : ∀ t, ctx.toks[j]? = some t → t.kind ≠ k) :
    ∃ s1 doc, docComments ctx s = .ok s1 doc ∧ ∃ k' x', tk ctx k s1 = .err k' x' := by
  obtain ⟨doc, hd⟩ := docComments_eq ctx hw hj
  refine ⟨_, doc, hd, ?_⟩
  rw [tk_eq ctx ((skips_post ctx hw hj).wf ctx hw) hj.here]
  cases ht : ctx.toks[j]? with
  | none => exact ⟨_, _, rfl⟩
  | some t =>
    dsimp only
    rw [if_neg (show ¬ (t.ty.kind == k) = true from fun hp => h t ht (eq_of_beq hp))]
    exact ⟨_, _, rfl⟩

/-- a type declaration fails only if its keyword is missing -/
theorem typeDeclInner_err (s : St) (hw : WF ctx s) : ∀ k x, typeDeclInner ctx none none s = .err k x →
    ∃ s1 doc, docComments ctx s = .ok s1 doc ∧ ∃ k' x', tk ctx .Type s1 = .err k' x' :=
  fun _ _ e => let ⟨_, hj⟩ := skips_exists ctx s.pos; kw_missing ctx hw hj ((typeDeclInner_sat ctx hw hj).of_err e).2.2

/-- a procedure declaration fails only if its keyword is missing -/
theorem procDeclInner_err (he : EofLast ctx) (s : St) (hw : WF ctx s) (hB : s.pos < ctx.toks.size) :
    ∀ k x, procDeclInner ctx none s = .err k x →
    ∃ s1 doc, docComments ctx s = .ok s1 doc ∧ ∃ k' x', tk ctx .Proc s1 = .err k' x' :=
  fun _ _ e => let ⟨_, hj⟩ := skips_exists ctx s.pos
    kw_missing ctx hw hj (((procDeclInner_sat ctx hw hj).of_err e).2.2 ⟨he, hB⟩)

/-- where no declaration can be parsed in front of the final `Eof`, the next token is that `Eof`: the two declaration
    parsers fail only if their keyword is missing, the recovery only at a synchronisation token -/
theorem globalDecl_sat {s : St} {j : Nat} (hw : WF ctx s) (hj : Skips ctx s.pos j) : (parseGlobalDecl ctx none s).Sat
    (fun s' _ => DeclOk ctx s s')
    (fun b x => b = false ∧ PostK ctx s x ∧ (InFront ctx s → ∃ t, ctx.toks[j]? = some t ∧ t.kind = Kind.Eof)) False := by
  have w0 : WF ctx { s with errBuf := [] } := hw
  -- a declaration node: `info` around the declaration, the result wrapped
  have node : ∀ {α β} {p : P α} {F : Prop} (f : α × AstInfo → β),
      (p { s with errBuf := [] }).Sat (fun s' _ => DeclOk ctx s s') (fun b x => b = false ∧ PostK ctx s x ∧ F) False →
      (pmap f (info p) s).Sat (fun s' _ => DeclOk ctx s s') (fun b x => b = false ∧ PostK ctx s x ∧ F) False :=
    fun f h => (sat_pmap _ _ _).2 (info_sat hw (h.imp (fun _ _ _ y => ⟨y.1.1.1, y⟩) (fun _ _ _ y => y) id))
  have hT : (pmap GlobalDecl.type (parseTypeDecl ctx none) s).Sat (fun s' _ => DeclOk ctx s s') _ False :=
    (sat_pmap _ _ _).2 (node _ (typeDeclInner_sat ctx w0 hj))
  have hP : (pmap GlobalDecl.proc (parseProcDecl ctx none) s).Sat (fun s' _ => DeclOk ctx s s') _ False :=
    (sat_pmap _ _ _).2 (node _ (procDeclInner_sat ctx w0 hj))
  unfold parseGlobalDecl
  simp only [altList]
  refine (sat_alt2 _ _ _).2 (hT.imp (fun _ _ _ y => y) (fun _ _ _ yT => ?_) id)
  refine (sat_alt2 _ _ _).2 (hP.imp (fun _ _ _ y => y) (fun _ _ _ yP => ?_) id)
  refine node _ (((runs_ignoreUntil1 (n := ctx.toks.size + 1) .global_dec).sat w0 (Nat.lt_succ_of_le (Nat.sub_le _ _))).imp
    (fun sx _ _ y => ?_) (fun b x hc y => ⟨y.1, Post.k ctx y.2.1, fun hi => ?_⟩) id)
  · -- the recovery has skipped something, and no declaration keyword
    have px : Post ctx s sx := y.1
    exact ⟨⟨px.k, y.2⟩, s.pos, Nat.le_refl _, y.2, fun i t a b => by omega,
      fun i t hi1 hi2 ht => px.2.2.2.2 i t (Nat.le_of_lt hi1) hi2 ht⟩
  · -- the recovery has failed because its look-ahead has succeeded at once: on `proc`, `type` or `Eof`
    obtain ⟨t, ht⟩ : ∃ t, ctx.toks[j]? = some t := ⟨_, Array.getElem?_eq_getElem ((skips_post ctx hw hj).2.2.2.1 hi.1 hi.2)⟩
    refine ⟨t, ht, Classical.byContradiction fun hE => ?_⟩
    have hv : ∀ k, t.kind ≠ k → void (tk ctx k) { s with errBuf := [] } = .err false { s with errBuf := [] } := by
      intro k hk
      unfold void pmap
      rw [tk_eq ctx w0 hj, ht]
      dsimp only
      rw [if_neg (show ¬ (t.ty.kind == k) = true from fun hp => hk (eq_of_beq hp))]
    unfold ignoreUntil1 peek at hc
    have hl : la ctx .global_dec { s with errBuf := [] } = alt2 (void (tk ctx .Proc)) (alt2 (void (tk ctx .Type)) (void (tk ctx .Eof)))
      { s with errBuf := [] } := rfl
    unfold alt2 at hl
    rw [hv _ (yP.2.2 hi _ ht), hv _ (yT.2.2 _ ht), hv _ hE] at hl
    rw [hl] at hc
    exact absurd hc ((runs_ignoreUntil0 (n := ctx.toks.size + 1) .global_dec).noerr w0 (Nat.lt_succ_of_le (Nat.sub_le _ _)) hi _ _)

theorem globalDecl_strict (s : St) (hw : WF ctx s) : Strict (parseGlobalDecl ctx none) s :=
  fun _ _ e => let ⟨_, hj⟩ := skips_exists ctx s.pos; ((globalDecl_sat ctx hw hj).of_ok e).1.2

/-- **one declaration keyword per declaration node**: whatever the tokens are, a global declaration that the loop
    parses consumes documentation comments, then one token, and behind it no `proc` / `type` keyword -/
theorem globalDecl_contained (s : St) (hw : WF ctx s) (s' : St) (d : GlobalDecl)
    (h : parseGlobalDecl ctx none s = .ok s' d) : Contained ctx s s' :=
  let ⟨_, hj⟩ := skips_exists ctx s.pos; ((globalDecl_sat ctx hw hj).of_ok h).2

theorem refGlobalDecl_sat {s : St} {j : Nat} (hw : WF ctx s) (hj : Skips ctx s.pos j) : (refParse (parseGlobalDecl ctx) none s).Sat
    (fun s' r => DeclOk ctx s s' ∧ r.offset = s.pos - s.refPos)
    (fun b x => b = false ∧ PostK ctx s x ∧ (InFront ctx s → ∃ t, ctx.toks[j]? = some t ∧ t.kind = Kind.Eof)) False := by
  rw [sat_refParse, if_neg (Nat.not_lt.2 hw.1)]
  exact (globalDecl_sat ctx (wf_reref ctx hw) hj).imp
    (fun _ _ _ y => ⟨⟨⟨⟨y.1.1.1, y.1.1.2.1, rfl, y.1.1.2.2.2⟩, y.1.2⟩, y.2⟩, rfl⟩)
    (fun _ _ _ y => ⟨y.1, ⟨y.2.1.1, y.2.1.2.1, rfl, y.2.1.2.2.2⟩, y.2.2⟩) id

/-- the declaration loop: its elements consume something, so it does not fail -/
theorem declLoop_runs : ∀ (fuel : Nat) (s : St), WF ctx s → ctx.toks.size - s.pos < fuel →
    (many0 (refParse (parseGlobalDecl ctx) none) fuel s).Sat (fun s' _ => PostK ctx s s') (fun _ _ => False) False
  | 0, _, _, hf => by omega
  | fuel + 1, s, hw, hf => by
    obtain ⟨j, hj⟩ := skips_exists ctx s.pos
    refine (sat_many0 _ fuel s).2 ((refGlobalDecl_sat ctx hw hj).imp (fun s1 _ _ y => ?_) (fun _ _ _ _ => PostK.refl ctx hw) id)
    obtain ⟨p1, hlt⟩ := y.1.1
    rw [if_neg (by omega)]
    exact (declLoop_runs fuel s1 (p1.wf ctx hw) (by have := p1.2.1; omega)).imp (fun _ _ _ x => p1.trans ctx x) (fun _ _ _ x => x) id

/-- `s` with the position of `x` -/
def at' (s x : St) : St := { s with pos := x.pos }

def mapSt {α} (f : St → St) : Res α → Res α
  | .ok s a => .ok (f s) a
  | .err k s => .err k (f s)
  | .panic e => .panic e

theorem at'_at' (s2 a b : St) : at' (at' s2 a) b = at' s2 b := rfl

/-- a token parser reads nothing of the state but the position -/
theorem tag_indep (fuel : Nat) (pred : TokenType → Bool) (s s2 : St) (h : s2.pos = s.pos) :
    tag ctx fuel pred s2 = mapSt (at' s2) (tag ctx fuel pred s) := by
  obtain ⟨j, hj⟩ := skips_exists ctx s.pos
  rw [tag_eq hj, tag_eq (h ▸ hj : Skips ctx s2.pos j), h]
  split
  · rfl
  · cases ctx.toks[j]? with
    | none => rfl
    | some t =>
      dsimp only
      split
      · rfl
      · show _ = Res.err false { s2 with pos := s.pos }
        rw [← h]

theorem loop_keywords_sat : ∀ (fuel : Nat) (s : St), WF ctx s → s.refPos = 0 →
    (many0 (refParse (parseGlobalDecl ctx) none) fuel s).Sat (fun sE ds =>
      ∀ q t, ctx.toks[q]? = some t → (t.kind = Kind.Proc ∨ t.kind = Kind.Type) → s.pos ≤ q → q < sE.pos →
        ∃ d ∈ ds, d.offset ≤ q ∧ Comments ctx d.offset q) (fun _ _ => True) True
  | 0, _, _, _ => trivial
  | fuel + 1, s, hw, hr => by
    obtain ⟨j0, hj0⟩ := skips_exists ctx s.pos
    refine (sat_many0 _ fuel s).2 ((refGlobalDecl_sat ctx hw hj0).imp (fun s1 d _ y => ?_) (fun _ _ _ _ q t _ _ a b => by omega)
      False.elim)
    obtain ⟨⟨⟨p1, _⟩, j, hj1, hj2, hj3, hj4⟩, hoff⟩ := y
    split
    · trivial
    refine (loop_keywords_sat fuel _ (p1.wf ctx hw) (by rw [p1.2.2.1, hr])).imp (fun sE as _ ih q t ht hk hq1 hq2 => ?_)
      (fun _ _ _ _ => trivial) id
    by_cases hlt : q < s1.pos
    · -- inside the first declaration: it can only be its first token
      have hqj : q = j := by
        rcases Nat.lt_trichotomy q j with hl | he | hg
        · have := hj3 q t hq1 hl ht
          rcases hk with hk | hk <;> rw [hk] at this <;> cases this
        · exact he
        · exact absurd hk (not_or.2 (hj4 q t hg hlt ht))
      subst hqj
      rw [hr] at hoff
      exact ⟨d, List.mem_cons_self, hoff ▸ hj1, hoff ▸ hj3⟩
    · -- behind it: one of the following declarations
      obtain ⟨d', hd, hd1, hd2⟩ := ih q t ht hk (Nat.le_of_not_lt hlt) hq2
      exact ⟨d', List.mem_cons_of_mem _ hd, hd1, hd2⟩

/-- **every `proc` / `type` keyword the declaration loop passes is the first token, behind documentation comments,
    of one of the declarations it returns** -/
theorem loop_keywords : ∀ (fuel : Nat) (s sE : St) (ds : List (Ref GlobalDecl)), WF ctx s → s.refPos = 0 →
    many0 (refParse (parseGlobalDecl ctx) none) fuel s = .ok sE ds →
    ∀ q t, ctx.toks[q]? = some t → (t.kind = Kind.Proc ∨ t.kind = Kind.Type) → s.pos ≤ q → q < sE.pos →
      ∃ d ∈ ds, d.offset ≤ q ∧ Comments ctx d.offset q :=
  fun fuel s _ _ hw hr h => (loop_keywords_sat ctx fuel s hw hr).of_ok h

/-- the whole parse: the declaration loop ends in front of the final `Eof`; where it stops no declaration can be parsed,
    so that `Eof` is next, and `eof` consumes it -/
theorem program_sat : (parseProgram ctx none { pos := 0 }).Sat
    (fun _ prog => ∀ q t, ctx.toks[q]? = some t → (t.kind = Kind.Proc ∨ t.kind = Kind.Type) →
      ∃ d ∈ prog.decls, d.offset ≤ q ∧ Comments ctx d.offset q)
    (fun _ _ => ¬ EofLast ctx) False := by
  have hw : WF ctx ({ pos := 0 } : St) := ⟨Nat.le_refl _, Nat.zero_le _⟩
  refine (sat_pmap _ _ _).2 ((sat_bind _ _ _).2 (info_sat hw ?_))
  show Res.Sat _ _ _ (many ctx _ (parseGlobalDecl ctx) (loopFuel ctx) none { pos := 0 })
  rw [many_none]
  refine (declLoop_runs ctx _ _ hw (loopFuel_ok ctx _ hw)).imp (fun sE ds e pE => ?_) (fun _ _ _ h => h.elim) id
  have wE : WF ctx sE := PostK.wf ctx pE hw
  obtain ⟨j, hj⟩ := skips_exists ctx sE.pos
  -- with the final `Eof` in place the loop has stopped in front of it: no declaration can be parsed there
  have hEof : EofLast ctx → ∃ t, ctx.toks[j]? = some t ∧ t.kind = Kind.Eof := fun he =>
    let ⟨_, _, hstop⟩ := many0_stop _ _ _ _ _ e
    ((refGlobalDecl_sat ctx wE hj).of_err hstop).2.2 (pE.inFront ⟨he, by
      obtain ⟨t, ht, _⟩ := he.last; have := (Array.getElem?_eq_some_iff.mp ht).1; show 0 < _; omega⟩)
  refine ⟨pE.1, (sat_bind _ _ _).2 ((sat_allConsuming ctx _ _).2 ((tk_sat_at ctx (s := { sE with errBuf := [] }) wE hj .Eof).imp
    (fun s1 t _ ⟨ht, hk3, e1⟩ => ?_) (fun _ _ _ y he => let ⟨t, ht, hk⟩ := hEof he; y.2.2 t ht hk) id))⟩
  rw [e1]
  show if j + 1 = ctx.toks.size then _ else _
  split
  · next hsz =>
    -- `eof` has taken the last token, behind comments only: a keyword stands in front of the loop's end
    intro q t' ht' hk
    refine (loop_keywords_sat ctx _ _ hw rfl).of_ok e q t' ht' hk (Nat.zero_le _) (Nat.lt_of_not_le fun hge => ?_)
    have hqlt : q < ctx.toks.size := (Array.getElem?_eq_some_iff.mp ht').1
    by_cases hlast : q = j
    · rw [hlast, ht] at ht'
      cases ht'
      rcases hk with hk | hk <;> rw [hk3] at hk <;> cases hk
    · have := skips_comments ctx hj q t' hge (by omega) ht'
      rcases hk with hk | hk <;> rw [hk] at this <;> cases this
  · next hsz => exact fun he => hsz (he.only _ _ ht hk3)

/-- **The parser never panics**: `Program::parse` on any token array, from its start -/
theorem program_np : ∀ e, parseProgram ctx none { pos := 0 } ≠ .panic e := ((Res.sat_iff _).1 (program_sat ctx)).1

/-- **`Program::parse` succeeds** on every token array that ends with its only `Eof` -/
theorem program_total (he : EofLast ctx) : ∃ s' p, parseProgram ctx none { pos := 0 } = .ok s' p := by
  have h := program_sat ctx
  generalize parseProgram ctx none { pos := 0 } = res at h ⊢
  cases res with
  | ok s' p => exact ⟨s', p, rfl⟩
  | err k x => exact absurd he h
  | panic e => exact h.elim

/-- the same for a whole parse: every `proc` / `type` keyword of the token array -/
theorem program_keywords (s' : St) (prog : Program) (h : parseProgram ctx none { pos := 0 } = .ok s' prog) :
    ∀ q t, ctx.toks[q]? = some t → (t.kind = Kind.Proc ∨ t.kind = Kind.Type) →
      ∃ d ∈ prog.decls, d.offset ≤ q ∧ Comments ctx d.offset q :=
  (program_sat ctx).of_ok h

end Spl.Total
