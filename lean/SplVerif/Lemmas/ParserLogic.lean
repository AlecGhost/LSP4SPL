/-
  What the combinators of the parser model do to a predicate on results: one rule per combinator, an equivalence
  wherever the combinator allows it, so that it serves as introduction rule and as inversion.  And the token level:
  the comment loop and the token parsers as functions of the first position where no comment stands (`Skips`,
  `comments_eq`, `tag_eq`).
-/
import SplVerif.Model.Parser

namespace Spl.Parse

def Res.Sat {α} (Q : St → α → Prop) (E : Bool → St → Prop) (N : Prop) : Res α → Prop
  | .ok s a => Q s a
  | .err k s => E k s
  | .panic _ => N

theorem Res.sat_iff {α} {Q : St → α → Prop} {E : Bool → St → Prop} {N : Prop} (r : Res α) :
    r.Sat Q E N ↔ (∀ e, r = .panic e → N) ∧ (∀ s a, r = .ok s a → Q s a) ∧ (∀ k s, r = .err k s → E k s) := by
  cases r with
  | ok s a => exact ⟨fun h => ⟨(fun _ e => nomatch e), (fun _ _ e => by cases e; exact h), (fun _ _ e => nomatch e)⟩, fun h => h.2.1 _ _ rfl⟩
  | err k s => exact ⟨fun h => ⟨(fun _ e => nomatch e), (fun _ _ e => nomatch e), (fun _ _ e => by cases e; exact h)⟩, fun h => h.2.2 _ _ rfl⟩
  | panic e => exact ⟨fun h => ⟨(fun _ _ => h), (fun _ _ e => nomatch e), (fun _ _ e => nomatch e)⟩, fun h => h.1 _ rfl⟩

/-- consequence; the implications may use which result it is -/
theorem Res.Sat.imp {α} {Q Q' : St → α → Prop} {E E' : Bool → St → Prop} {N N' : Prop} {r : Res α}
    (h : r.Sat Q E N) (hq : ∀ s a, r = .ok s a → Q s a → Q' s a) (he : ∀ k s, r = .err k s → E k s → E' k s)
    (hn : N → N') : r.Sat Q' E' N' := by
  cases r with
  | ok s a => exact hq s a rfl h
  | err k s => exact he k s rfl h
  | panic e => exact hn h

theorem Res.Sat.of_ok {α} {Q : St → α → Prop} {E : Bool → St → Prop} {N : Prop} {r : Res α} {s : St} {a : α}
    (h : r.Sat Q E N) (e : r = .ok s a) : Q s a := by rw [e] at h; exact h

theorem Res.Sat.of_err {α} {Q : St → α → Prop} {E : Bool → St → Prop} {N : Prop} {r : Res α} {s : St} {k : Bool}
    (h : r.Sat Q E N) (e : r = .err k s) : E k s := by rw [e] at h; exact h

theorem Res.sat_true {α} (r : Res α) : r.Sat (fun _ _ => True) (fun _ _ => True) True := by cases r <;> trivial

section
variable {α β : Type} {E : Bool → St → Prop} {N : Prop}

theorem sat_bind {Q : St → β → Prop} (p : P α) (f : α → P β) (s : St) :
    (bind p f s).Sat Q E N ↔ (p s).Sat (fun s' a => (f a s').Sat Q E N) E N := by
  unfold bind; cases p s <;> exact Iff.rfl

theorem sat_pmap {Q : St → β → Prop} (f : α → β) (p : P α) (s : St) :
    (pmap f p s).Sat Q E N ↔ (p s).Sat (fun s' a => Q s' (f a)) E N := by
  unfold pmap; cases p s <;> exact Iff.rfl

theorem sat_alt2 {Q : St → α → Prop} (p q : P α) (s : St) :
    (alt2 p q s).Sat Q E N ↔ (p s).Sat Q (fun _ _ => (q s).Sat Q E N) N := by
  unfold alt2; cases p s <;> exact Iff.rfl

theorem sat_opt {Q : St → Option α → Prop} (p : P α) (s : St) :
    (opt p s).Sat Q E N ↔ (p s).Sat (fun s' a => Q s' (some a)) (fun _ _ => Q s none) N := by
  unfold opt; cases p s <;> exact Iff.rfl

theorem sat_peek {Q : St → α → Prop} (p : P α) (s : St) :
    (peek p s).Sat Q E N ↔ (p s).Sat (fun _ a => Q s a) E N := by
  unfold peek; cases p s <;> exact Iff.rfl

theorem sat_allConsuming (ctx : Ctx) {Q : St → α → Prop} (p : P α) (s : St) :
    (allConsuming ctx p s).Sat Q E N ↔
      (p s).Sat (fun s' a => if s'.pos = ctx.toks.size then Q s' a else E false s') E N := by
  unfold allConsuming
  cases p s with
  | ok s' a =>
    show Res.Sat _ _ _ (if (s'.pos == ctx.toks.size) = true then _ else _) ↔ if s'.pos = ctx.toks.size then _ else _
    by_cases h : s'.pos = ctx.toks.size
    · rw [if_pos (beq_iff_eq.2 h), if_pos h]
      exact Iff.rfl
    · rw [if_neg (fun e => h (beq_iff_eq.1 e)), if_neg h]
      exact Iff.rfl
  | err k s' => exact Iff.rfl
  | panic e => exact Iff.rfl

theorem sat_altList {Q : St → α → Prop} (s : St) (h0 : E false s) :
    ∀ (ps : List (P α)), (∀ p ∈ ps, (p s).Sat Q E N) → (altList ps s).Sat Q E N
  | [], _ => h0
  | [p], h => h p (List.mem_singleton_self p)
  | p :: q :: ps, h =>
    (sat_alt2 p _ s).2 ((h p List.mem_cons_self).imp (fun _ _ _ x => x)
      (fun _ _ _ _ => sat_altList s h0 (q :: ps) (fun x hx => h x (List.mem_cons_of_mem _ hx))) id)

/-- `info` panics where the range it measures would start or end in front of the reference position -/
theorem sat_info {Q : St → α × AstInfo → Prop} (p : P α) (s : St) :
    (info p s).Sat Q E N ↔ if s.pos < s.refPos then N else
      (p { s with errBuf := [] }).Sat (fun s' a => if s'.pos < s.refPos then N else
          Q { s' with errBuf := s.errBuf } (a, { range := ⟨s.pos - s.refPos, s'.pos - s.refPos⟩, errors := s'.errBuf }))
        (fun k s' => E k { s' with errBuf := s.errBuf }) N := by
  unfold info
  split
  · exact Iff.rfl
  · cases p { s with errBuf := [] } with
    | ok s' a =>
      show Res.Sat _ _ _ (if s'.pos < s.refPos then _ else _) ↔ if s'.pos < s.refPos then _ else _
      by_cases h : s'.pos < s.refPos
      · rw [if_pos h, if_pos h]
        exact Iff.rfl
      · rw [if_neg h, if_neg h]
        exact Iff.rfl
    | err k s' => exact Iff.rfl
    | panic e => exact Iff.rfl

/-- a `Reference` panics where it would start in front of the enclosing one -/
theorem sat_refParse {Q : St → Ref α → Prop} (parseT : Option α → P α) (s : St) :
    (refParse parseT none s).Sat Q E N ↔ if s.pos < s.refPos then N else
      (parseT none { s with refPos := s.pos }).Sat (fun s' a => Q { s' with refPos := s.refPos } ⟨a, s.pos - s.refPos⟩)
        (fun k s' => E k { s' with refPos := s.refPos, incRefs := s'.incRefs.dropLast }) N := by
  unfold refParse
  simp only [Option.map_none, Option.isSome_none]
  split
  · exact Iff.rfl
  · cases parseT none { s with refPos := s.pos } <;> exact Iff.rfl

theorem sat_expectError {Q : St → St → Prop} (s : St) (msg : Msg) :
    (expectError s msg).Sat Q E N ↔ if s.pos < s.refPos then N else
      Q { s with errBuf := s.errBuf ++ [⟨⟨(if s.pos - s.refPos > 0 then s.pos - s.refPos - 1 else 0),
        (if s.pos - s.refPos > 0 then s.pos - s.refPos - 1 else 0)⟩, msg⟩] } s := by
  unfold expectError; split <;> exact Iff.rfl

/-- `expect` without an old node never fails: a failure of its parser (after a second try where the failure was of the
    incremental kind) becomes `none` and a diagnostic in the error buffer of the state the failure left -/
theorem sat_expect {Q : St → Option α → Prop} (parser : Option α → P α) (msg : Msg) (s : St) :
    (expect none parser msg s).Sat Q E N ↔
      (parser none s).Sat (fun s' a => Q s' (some a)) (fun k s1 =>
        match k with
        | true => (parser none s1).Sat (fun s' a => Q s' (some a))
            (fun _ s2 => (expectError s2 msg).Sat (fun s3 _ => Q s3 none) E N) N
        | false => (expectError s1 msg).Sat (fun s3 _ => Q s3 none) E N) N := by
  unfold expect
  cases parser none s with
  | ok s' a => exact Iff.rfl
  | panic e => exact Iff.rfl
  | err k s1 =>
    have tail : ∀ s2 : St, Res.Sat Q E N (match expectError s2 msg with
        | .ok s3 _ => .ok s3 none
        | .err k x => .err k x
        | .panic e => .panic e) ↔ (expectError s2 msg).Sat (fun s3 _ => Q s3 none) E N :=
      fun s2 => by cases expectError s2 msg <;> exact Iff.rfl
    cases k with
    | false => exact tail s1
    | true =>
      show Res.Sat _ _ _ (match parser none s1 with | .ok s' a => _ | .panic e => _ | .err _ s2 => _) ↔
        Res.Sat _ _ _ (parser none s1)
      cases parser none s1 with
      | ok s' a => exact Iff.rfl
      | panic e => exact Iff.rfl
      | err k2 s2 => exact tail s2

theorem sat_confusable {Q : St → α → Prop} (p : P α) (msg : Msg) (s : St) :
    (confusable p msg s).Sat Q E N ↔
      (info p s).Sat (fun s' r => Q { s' with errBuf := s'.errBuf ++ [⟨r.2.range, msg⟩] } r.1) E N := by
  unfold confusable
  cases info p s with
  | ok s' r => cases r; exact Iff.rfl
  | err k s' => exact Iff.rfl
  | panic e => exact Iff.rfl

theorem many0_succ (p : P α) (f : Nat) (s : St) : many0 p (f + 1) s =
    match p s with
    | .err _ _ => .ok s []
    | .panic e => .panic e
    | .ok s' a =>
      if s'.pos == s.pos then .err false s
      else
        match many0 p f s' with
        | .ok s'' as => .ok s'' (a :: as)
        | r => r := rfl

theorem sat_many0 {Q : St → List α → Prop} (p : P α) (fuel : Nat) (s : St) :
    (many0 p (fuel + 1) s).Sat Q E N ↔
      (p s).Sat (fun s' a => if s'.pos = s.pos then E false s
          else (many0 p fuel s').Sat (fun s'' as => Q s'' (a :: as)) E N) (fun _ _ => Q s []) N := by
  rw [many0_succ]
  cases p s with
  | ok s' a =>
    show Res.Sat _ _ _ (if (s'.pos == s.pos) = true then _ else _) ↔ if s'.pos = s.pos then _ else _
    by_cases h : s'.pos = s.pos
    · rw [if_pos (beq_iff_eq.2 h), if_pos h]
      exact Iff.rfl
    · rw [if_neg (fun e => h (beq_iff_eq.1 e)), if_neg h]
      cases many0 p fuel s' <;> exact Iff.rfl
  | err k s' => exact Iff.rfl
  | panic e => exact Iff.rfl

theorem sat_ignoreUntil0 (ctx : Ctx) {Q : St → List Token → Prop} (pat : P Unit) (fuel start : Nat) (s : St) :
    (ignoreUntil0 ctx pat (fuel + 1) start s).Sat Q E N ↔
      (pat s).Sat (fun s1 _ => Q s1 (tokensBetween ctx start s1.pos))
        (fun _ _ => if s.pos < ctx.toks.size then (ignoreUntil0 ctx pat fuel start { s with pos := s.pos + 1 }).Sat Q E N
          else E false s) N := by
  simp only [ignoreUntil0, take1]
  cases pat s with
  | ok s1 u => exact Iff.rfl
  | panic e => exact Iff.rfl
  | err k x =>
    by_cases h : s.pos < ctx.toks.size
    · simp only [h, if_true, Array.getElem?_eq_getElem h, Res.Sat]
    · simp only [h, if_false, Array.getElem?_eq_none (Nat.le_of_not_lt h), Res.Sat]

end

/-- a `Reference` that succeeds restores the reference position and records where it stood relative to it -/
theorem refParse_ref (parseT : Option α → P α) (s : St) : (refParse parseT none s).Sat
    (fun s' r => s'.refPos = s.refPos ∧ r.offset = s.pos - s.refPos) (fun _ _ => True) True := by
  rw [sat_refParse]
  split
  · trivial
  · exact (Res.sat_true _).imp (fun _ _ _ _ => ⟨rfl, rfl⟩) (fun _ _ _ _ => trivial) id

/-- the shape shared by a round of the `parse_mul` / `parse_add` loops and the optional comparison -/
def opStep (ctx : Ctx) (ops : List Kind) (next : Operator → P Expr) (e : Expr) : P Expr := fun s =>
  match altList (ops.map (tk ctx)) s with
  | .ok s1 t =>
    match opOfKind t.kind with
    | none => .panic ⟨"expect:Operator conversion failed"⟩
    | some op => next op s1
  | .err _ _ => .ok s e
  | .panic p => .panic p

theorem sat_opStep {ctx : Ctx} {Q : St → Expr → Prop} (ops : List Kind) (next : Operator → P Expr) (e : Expr) (s : St) :
    (opStep ctx ops next e s).Sat Q E N ↔ (altList (ops.map (tk ctx)) s).Sat
      (fun s1 t => match opOfKind t.kind with
        | none => N
        | some op => (next op s1).Sat Q E N) (fun _ _ => Q s e) N := by
  unfold opStep
  cases altList (ops.map (tk ctx)) s with
  | ok s1 t =>
    show Res.Sat _ _ _ (match opOfKind t.kind with | none => _ | some op => _) ↔ match opOfKind t.kind with | none => _ | some op => _
    cases opOfKind t.kind <;> exact Iff.rfl
  | err k x => exact Iff.rfl
  | panic x => exact Iff.rfl

theorem opLoop_succ {ctx : Ctx} (ops : List Kind) (rhs : Expr → Operator → P Expr) (fuel : Nat) (e : Expr) (s : St) :
    opLoop ctx ops rhs (fuel + 1) e s = opStep ctx ops (fun op => bind (rhs e op) (opLoop ctx ops rhs fuel)) e s := by
  simp only [opLoop, opStep, bind]
  cases altList (ops.map (tk ctx)) s with
  | ok s1 t =>
    dsimp only
    cases opOfKind t.kind with
    | none => rfl
    | some op => dsimp only; cases rhs e op s1 <;> rfl
  | err k x => rfl
  | panic x => rfl

/-- what follows the keyword in `TypeDeclaration::parse` and in `VariableDeclaration::parse`, without old nodes -/
def declTail (ctx : Ctx) (k k1 k2 : Kind) (m1 m2 m3 : Msg) (doc : List (List Char)) :
    P (List (List Char) × Option Identifier × Option (Ref TypeExpr)) :=
  bind (expect none (parseIdentifier ctx) (.ExpectedToken (chars "identifier"))) (fun name =>
    bind (expect none (inc (altList [tk ctx k, confusable (tk ctx k1) m1, confusable (tk ctx k2) m2])) m3) (fun _ =>
    bind (expect none (refTypeExpr ctx) (.ExpectedToken (chars "type expression"))) (fun te =>
    bind (expect none (inc (tk ctx .Semic)) .MissingTrailingSemic) (fun _ => pure' (doc, name, te)))))


section
variable (ctx : Ctx)

/-- `j` is the first position at or behind `p` where no comment stands -/
structure Skips (p j : Nat) : Prop where
  le : p ≤ j
  cmts : ∀ i, p ≤ i → i < j → ∃ t c, ctx.toks[i]? = some t ∧ t.ty = .Comment c
  tok : ∀ t c, ctx.toks[j]? = some t → t.ty ≠ .Comment c

variable {ctx}

theorem Skips.here {p j : Nat} (h : Skips ctx p j) : Skips ctx j j := ⟨Nat.le_refl _, fun i a b => by omega, h.tok⟩

theorem Skips.le_size {p j : Nat} (h : Skips ctx p j) (hp : p ≤ ctx.toks.size) : j ≤ ctx.toks.size := by
  by_cases e : p = j
  · exact e ▸ hp
  · have hlt := Nat.lt_of_le_of_ne h.le e
    obtain ⟨t, _, ht, _⟩ := h.cmts (j - 1) (Nat.le_sub_one_of_lt hlt) (Nat.sub_lt (Nat.zero_lt_of_lt hlt) Nat.one_pos)
    exact Nat.le_of_pred_lt (Array.getElem?_eq_some_iff.mp ht).1

variable (ctx)

theorem skips_exists (p : Nat) : ∃ j, Skips ctx p j := by
  have aux : ∀ n p, ctx.toks.size - p ≤ n → ∃ j, Skips ctx p j := by
    intro n
    induction n with
    | zero =>
      exact fun p hn => ⟨p, Nat.le_refl _, fun i a b => absurd a (Nat.not_le.2 b), fun t c ht =>
        absurd (Array.getElem?_eq_some_iff.mp ht).1 (Nat.not_lt.2 (Nat.le_of_sub_eq_zero (Nat.le_zero.1 hn)))⟩
    | succ n ih =>
      intro p hn
      by_cases hc : ∃ t c, ctx.toks[p]? = some t ∧ t.ty = .Comment c
      · obtain ⟨t, c, ht, hty⟩ := hc
        obtain ⟨j, hj⟩ := ih (p + 1) (by omega)
        exact ⟨j, Nat.le_of_succ_le hj.le, fun i a b => if e : i = p then ⟨t, c, e ▸ ht, hty⟩ else
          hj.cmts i (Nat.lt_of_le_of_ne a (Ne.symm e)) b, hj.tok⟩
      · exact ⟨p, Nat.le_refl _, fun i a b => absurd a (Nat.not_le.2 b), fun t c ht hty => hc ⟨t, c, ht, hty⟩⟩
  exact aux _ p (Nat.le_refl _)

variable {ctx}

theorem comment_ok {s : St} {t : Token} {c : List Char} (ht : ctx.toks[s.pos]? = some t) (hty : t.ty = .Comment c) :
    comment ctx s = .ok { s with pos := s.pos + 1 } c := by
  simp only [comment, take1, ht, hty]

theorem comment_err {s : St} (h : ∀ t c, ctx.toks[s.pos]? = some t → t.ty ≠ .Comment c) : comment ctx s = .err false s := by
  unfold comment take1
  cases ht : ctx.toks[s.pos]? with
  | none => rfl
  | some t =>
    dsimp only
    split
    · next c hty => exact absurd hty (h t c ht)
    · rfl

/-- the comment loop stops at the first token that is no comment, and changes nothing but the position -/
theorem comments_eq {j : Nat} : ∀ (fuel : Nat) (s : St), Skips ctx s.pos j →
    ∃ cs, many0 (comment ctx) fuel s = if fuel + s.pos ≤ j then .panic ⟨"fuel"⟩ else .ok { s with pos := j } cs
  | 0, s, h => ⟨[], by rw [if_pos (by have := h.le; omega)]; rfl⟩
  | fuel + 1, s, h => by
    by_cases e : s.pos = j
    · subst e
      exact ⟨[], by rw [many0_succ, comment_err h.tok, if_neg (by omega)]⟩
    · have hlt : s.pos < j := by have := h.le; omega
      obtain ⟨t, c, ht, hty⟩ := h.cmts s.pos (Nat.le_refl _) hlt
      obtain ⟨cs, ih⟩ := comments_eq fuel { s with pos := s.pos + 1 } ⟨hlt, fun i a b => h.cmts i (Nat.le_of_succ_le a) b, h.tok⟩
      refine ⟨c :: cs, ?_⟩
      rw [many0_succ, comment_ok ht hty]
      dsimp only
      rw [if_neg (fun e => Nat.succ_ne_self _ (eq_of_beq e)), ih]
      by_cases hf : fuel + 1 + s.pos ≤ j
      · rw [if_pos hf, if_pos (show fuel + (s.pos + 1) ≤ j by omega)]
      · rw [if_neg hf, if_neg (show ¬ fuel + (s.pos + 1) ≤ j by omega)]

/-- a token parser skips the comments and looks at the token behind them; where that token does not match, the
    error carries the input with the comments -/
theorem tag_eq {s : St} {j : Nat} (h : Skips ctx s.pos j) (fuel : Nat) (pred : TokenType → Bool) :
    tag ctx fuel pred s = if fuel + s.pos ≤ j then .panic ⟨"fuel"⟩ else
      match ctx.toks[j]? with
      | some t => if pred t.ty then .ok { s with pos := j + 1 } t else .err false s
      | none => .err false { s with pos := j } := by
  obtain ⟨cs, e⟩ := comments_eq fuel s h
  unfold tag take1
  rw [e]
  by_cases hf : fuel + s.pos ≤ j
  · rw [if_pos hf, if_pos hf]
  · rw [if_neg hf, if_neg hf]
    dsimp only
    cases ctx.toks[j]? <;> rfl

theorem tag_sat (fuel : Nat) (pred : TokenType → Bool) (s : St) : (tag ctx fuel pred s).Sat
    (fun s' t => s.pos < s'.pos ∧ ctx.toks[s'.pos - 1]? = some t ∧ pred t.ty = true)
    (fun _ s' => s'.pos = s.pos ∨ ctx.toks.size ≤ s'.pos) True := by
  obtain ⟨j, hj⟩ := skips_exists ctx s.pos
  rw [tag_eq hj]
  split
  · trivial
  · cases ht : ctx.toks[j]? with
    | none => exact Or.inr (Array.getElem?_eq_none_iff.1 ht)
    | some t =>
      dsimp only
      split
      · next hp => exact ⟨Nat.lt_succ_of_le hj.le, ht, hp⟩
      · exact Or.inl rfl

end

end Spl.Parse
