/-
  Lexing of printed text (C09): a fuel-free description of `LexSpec.lex` (`Lx`), the notion of
  a printed *piece* that lexes to given token types whatever follows it (`P`), and one lemma per
  token class (punctuation, operators, keywords, identifiers, decimal / hexadecimal / character
  literals) saying that its printed form is such a piece.
-/
import SplVerif.Lemmas.LexConform
import SplVerif.Model.Parser

namespace Spl.FmtLex
open Spl Spl.LexSpec

/-- `Lx s tys`: the specification tokenises `s` into tokens of types `tys` (ending in `Eof`). -/
inductive Lx : List Char → List TokenType → Prop
  | nil : Lx [] [.Eof]
  | ws (c : Char) (cs : List Char) (tys : List TokenType) : ws c = true → Lx cs tys → Lx (c :: cs) tys
  | tok (c : Char) (cs : List Char) (n : Nat) (ty : TokenType) (tys : List TokenType) :
      ws c = false → malformedAt (c :: cs) = false → longest (proposals (c :: cs)) = some (n, ty) → n ≠ 0 →
      Lx ((c :: cs).drop n) tys → Lx (c :: cs) (ty :: tys)

theorem lx_go {s : List Char} {tys : List TokenType} (h : Lx s tys) :
    ∀ fuel off, s.length ≤ fuel → ∃ ts, LexSpec.go (fuel + 1) s off = some ts ∧ ts.map (·.ty) = tys := by
  induction h with
  | nil => exact fun _ _ _ => ⟨_, rfl, rfl⟩
  | ws c cs tys hw _ ih =>
    intro fuel off hf
    obtain ⟨f, rfl⟩ := Nat.exists_eq_add_one_of_ne_zero (Nat.ne_zero_of_lt hf)
    obtain ⟨ts, h1, h2⟩ := ih f (off + c.utf8Size) (Nat.le_of_succ_le_succ hf)
    exact ⟨ts, by rw [LexSpec.go, if_pos hw, h1], h2⟩
  | tok c cs n ty tys hw hm hl hn _ ih =>
    intro fuel off hf
    obtain ⟨f, rfl⟩ := Nat.exists_eq_add_one_of_ne_zero (Nat.ne_zero_of_lt hf)
    obtain ⟨ts, h1, h2⟩ := ih f (off + bytes ((c :: cs).take n)) (by
      simp only [List.length_drop, List.length_cons] at hf ⊢; omega)
    refine ⟨{ ty := ty, range := ⟨off, off + bytes ((c :: cs).take n)⟩ } :: ts, ?_, by rw [List.map_cons, h2]⟩
    rw [LexSpec.go]
    simp only [hw, Bool.false_eq_true, if_false, hm, hl, hn, h1]

theorem lx_lex {s : List Char} {tys : List TokenType} (h : Lx s tys) :
    ∃ ts, LexSpec.lex s = some ts ∧ ts.map (·.ty) = tys := lx_go h _ 0 (Nat.le_refl _)

/-- `P C s tys`: in front of any text `rest` that satisfies `C` and tokenises, `s` contributes exactly the token
    types `tys`. -/
def P (C : List Char → Prop) (s : List Char) (tys : List TokenType) : Prop :=
  ∀ rest rt, C rest → Lx rest rt → Lx (s ++ rest) (tys ++ rt)

/-- characters that end a word or a number and start no two-character symbol with what precedes them -/
def delimChar (c : Char) : Bool :=
  c == ' ' || c == '\n' || c == '(' || c == ')' || c == '[' || c == ']' || c == ';' || c == ',' || c == ':' ||
  c == '{' || c == '}'

def Delim (rest : List Char) : Prop := rest = [] ∨ ∃ c r, rest = c :: r ∧ delimChar c = true

abbrev PAny := P (fun _ => True)
abbrev PDel := P Delim

theorem pany_pdel {s tys} (h : PAny s tys) : PDel s tys := fun rest rt _ hl => h rest rt trivial hl

theorem p_nil (C : List Char → Prop) : P C [] [] := fun _ _ _ h => h

theorem pany_seq {C s1 t1 s2 t2} (h1 : PAny s1 t1) (h2 : P C s2 t2) : P C (s1 ++ s2) (t1 ++ t2) := by
  intro rest rt hc hl
  rw [List.append_assoc, List.append_assoc]
  exact h1 _ _ trivial (h2 rest rt hc hl)

def StartsDelim (s : List Char) : Prop := ∃ c r, s = c :: r ∧ delimChar c = true

theorem pdel_seq {C s1 t1 s2 t2} (h1 : PDel s1 t1) (hs : StartsDelim s2) (h2 : P C s2 t2) :
    P C (s1 ++ s2) (t1 ++ t2) := by
  intro rest rt hc hl
  rw [List.append_assoc, List.append_assoc]
  obtain ⟨c, r, rfl, hd⟩ := hs
  exact h1 _ _ (Or.inr ⟨c, r ++ rest, rfl, hd⟩) (h2 rest rt hc hl)

theorem pany_ws (c : Char) (h : ws c = true) : PAny [c] [] := fun rest rt _ hl => Lx.ws c rest rt h hl

theorem pany_wsrun (w : List Char) (h : ∀ c ∈ w, ws c = true) : PAny w [] := by
  induction w with
  | nil => exact p_nil _
  | cons c w ih =>
    have := pany_seq (C := fun _ => True) (pany_ws c (h c (by simp))) (ih (fun d hd => h d (by simp [hd])))
    simpa using this

theorem tok_piece (c : Char) (cs : List Char) (ty : TokenType) (C : List Char → Prop) (hws : LexSpec.ws c = false)
    (hprop : ∀ rest, C rest → longest (proposals (c :: (cs ++ rest))) = some ((c :: cs).length, ty))
    (hmal : ∀ rest, C rest → malformedAt (c :: (cs ++ rest)) = false) : P C (c :: cs) [ty] := by
  intro rest rt hc hl
  refine Lx.tok c (cs ++ rest) (c :: cs).length ty rt hws (hmal rest hc) (hprop rest hc) (Nat.succ_ne_zero _) ?_
  rw [← List.cons_append, List.drop_left]
  exact hl

theorem mal_plain (c : Char) (cs : List Char) (h0 : c ≠ '0') (ht : c ≠ '\'') (hd : LexSpec.digit c = false) :
    malformedAt (c :: cs) = false := by
  unfold malformedAt
  split
  · rename_i heq; simp [h0] at heq
  · rename_i heq; simp [ht] at heq
  · rename_i heq; simp only [List.cons.injEq] at heq; obtain ⟨rfl, _⟩ := heq; simp [hd]
  · rfl

macro "sym_any" lem:ident : tactic =>
  `(tactic| exact tok_piece _ _ [] _ rfl _ (by decide) (by intro rest _; simp [$lem:ident, Conform.longest_single])
      (by intro rest _; exact mal_plain _ _ (by decide) (by decide) (by decide)))

theorem sym_piece (C : List Char → Prop) (c : Char) (cs : List Char) (ty : TokenType) (hc : LexSpec.ws c = false)
    (hw : Conform.wordStart c = false)
    (hl : ∀ rest, C rest → longest (proposals (c :: (cs ++ rest))) = some ((c :: cs).length, ty)) : P C (c :: cs) [ty] := by
  obtain ⟨_, hd, ht⟩ := Conform.wordStart_false hw
  exact tok_piece c cs ty C hc hl
    fun _ _ => mal_plain c _ (fun e => by rw [e] at hd; cases hd) ht (Conform.digit_eq c ▸ hd)

/-- a character with which no other symbol starts -/
theorem sole_piece {c : Char} {ty : TokenType}
    (h : LexSpec.ws c = false ∧ Conform.wordStart c = false ∧ c ≠ '/' ∧ Conform.symbolsAt c = [([c], ty)]) : PAny [c] [ty] :=
  sym_piece _ c [] ty h.1 h.2.1 fun rest _ => by rw [Conform.spec_sole h.2]; rfl

-- each evaluation: the character is no white space and starts no word, number, character literal or comment, and the
-- symbol is the only one of the specification's table that starts with it
theorem p_lparen : PAny ['('] [.LParen] := sole_piece (by decide +kernel)
theorem p_rparen : PAny [')'] [.RParen] := sole_piece (by decide +kernel)
theorem p_lbracket : PAny ['['] [.LBracket] := sole_piece (by decide +kernel)
theorem p_rbracket : PAny [']'] [.RBracket] := sole_piece (by decide +kernel)
theorem p_lcurly : PAny ['{'] [.LCurly] := sole_piece (by decide +kernel)
theorem p_rcurly : PAny ['}'] [.RCurly] := sole_piece (by decide +kernel)
theorem p_semic : PAny [';'] [.Semic] := sole_piece (by decide +kernel)
theorem p_comma : PAny [','] [.Comma] := sole_piece (by decide +kernel)
theorem p_minus : PAny ['-'] [.Minus] := sole_piece (by decide +kernel)
theorem p_plus : PAny ['+'] [.Plus] := sole_piece (by decide +kernel)
theorem p_times : PAny ['*'] [.Times] := sole_piece (by decide +kernel)
theorem p_eq : PAny ['='] [.Eq] := sole_piece (by decide +kernel)
theorem p_neq : PAny ['#'] [.Neq] := sole_piece (by decide +kernel)

theorem p_space : PAny [' '] [] := pany_ws ' ' rfl
theorem p_newline : PAny ['\n'] [] := pany_ws '\n' rfl

theorem p_blank {s tys} (h : P (fun r => r = ' ' :: r.tail) s tys) : PAny (s ++ [' ']) tys := by
  intro rest rt _ hl
  rw [List.append_assoc]
  exact h (' ' :: rest) rt rfl (Lx.ws ' ' rest rt rfl hl)

theorem pdel_blank {s tys} (h : PDel s tys) : PAny (s ++ [' ']) tys :=
  p_blank fun rest rt hc => h rest rt (Or.inr ⟨' ', rest.tail, hc, rfl⟩)

/-- the symbols `c` and `c=`, each with the blank that keeps a following `=` from extending it -/
theorem pair_piece {c : Char} {t1 t2 : TokenType} (hc : LexSpec.ws c = false)
    (h : Conform.wordStart c = false ∧ c ≠ '/' ∧ (Conform.symbolsAt c = [([c], t1), ([c, '='], t2)] ∨
      Conform.symbolsAt c = [([c, '='], t2), ([c], t1)])) : PAny [c, ' '] [t1] ∧ PAny [c, '=', ' '] [t2] :=
  ⟨p_blank (sym_piece _ c [] t1 hc h.1 fun rest e => by rw [Conform.spec_pair h, e]; rfl),
    p_blank (sym_piece _ c ['='] t2 hc h.1 fun rest _ => by rw [Conform.spec_pair h]; rfl)⟩

-- each evaluation: the character starts no word, number, character literal or comment, and the two symbols are those
-- of the specification's table that start with it
theorem p_colon : PAny [':', ' '] [.Colon] := (pair_piece (t2 := .Assign) rfl (by decide +kernel)).1
theorem p_assign : PAny [':', '=', ' '] [.Assign] := (pair_piece (t1 := .Colon) rfl (by decide +kernel)).2
theorem p_lt : PAny ['<', ' '] [.Lt] := (pair_piece (t2 := .Le) rfl (by decide +kernel)).1
theorem p_le : PAny ['<', '=', ' '] [.Le] := (pair_piece (t1 := .Lt) rfl (by decide +kernel)).2
theorem p_gt : PAny ['>', ' '] [.Gt] := (pair_piece (t2 := .Ge) rfl (by decide +kernel)).1
theorem p_ge : PAny ['>', '=', ' '] [.Ge] := (pair_piece (t1 := .Gt) rfl (by decide +kernel)).2

theorem p_divide : PAny ['/', ' '] [.Divide] :=
  p_blank (sym_piece _ '/' [] _ rfl rfl fun rest e => by
    rw [Conform.proposals_sym rfl, Conform.symbol_cons, e]
    rfl)

theorem delim_facts {d : Char} (h : delimChar d = true) :
    wordChar d = false ∧ digit d = false ∧ hexdigit d = false ∧ d ≠ 'x' := by
  simp only [delimChar, Bool.or_eq_true, beq_iff_eq] at h
  -- the eleven delimiter characters, each evaluated
  rcases h with (((((((((rfl | rfl) | rfl) | rfl) | rfl) | rfl) | rfl) | rfl) | rfl) | rfl) | rfl <;> decide +kernel

def wordTy (w : List Char) : TokenType :=
  match keywords.find? (fun kw => kw.1 == w) with
  | some (_, ty) => ty
  | none => .Ident w

theorem run_delim {f : Char → Bool} (hf : ∀ d, delimChar d = true → f d = false) {w rest : List Char}
    (hw : ∀ x ∈ w, f x = true) (hd : Delim rest) : (w ++ rest).takeWhile f = w :=
  Conform.takeWhile_append_of f w rest hw fun d r e => by
    rcases hd with rfl | ⟨d', r', rfl, hc⟩
    · cases e
    · cases e; exact hf _ hc

theorem ws_wordChar {c : Char} (h : wordChar c = true) : LexSpec.ws c = false := by
  cases hw : LexSpec.ws c
  · rfl
  · simp only [LexSpec.ws, Bool.or_eq_true, beq_iff_eq] at hw
    rcases hw with ((rfl | rfl) | rfl) | rfl <;> exact absurd h (by decide)

theorem wordChar_cons {c : Char} {tl : List Char} (hl : letter c = true) (hall : ∀ x ∈ tl, wordChar x = true) :
    ∀ x ∈ c :: tl, wordChar x = true := by
  intro x hx
  rcases List.mem_cons.mp hx with rfl | hx
  · simp [wordChar, hl]
  · exact hall x hx

theorem word_eq (c : Char) (r : List Char) (hl : letter c = true) :
    word (c :: r) = [(((c :: r).takeWhile wordChar).length, wordTy ((c :: r).takeWhile wordChar))] := by
  simp only [LexSpec.word, hl, if_true, wordTy]
  split <;> simp only [*]

theorem p_word (c : Char) (tl : List Char) (hl : letter c = true) (hall : ∀ x ∈ tl, wordChar x = true) :
    PDel (c :: tl) [wordTy (c :: tl)] := by
  have ha : (isAlpha c || c == '_') = true := Conform.letter_eq c ▸ hl
  obtain ⟨_, h2, h3, h4, _⟩ := Conform.alpha_facts ha
  have hw := wordChar_cons hl hall
  refine tok_piece c tl _ _ (ws_wordChar (hw c (List.mem_cons_self ..))) (fun rest hd => ?_)
    (fun rest _ => mal_plain _ _ h2 h3 (Conform.digit_eq c ▸ h4))
  rw [Conform.proposals_word c _ ha, word_eq c _ hl, ← List.cons_append,
    run_delim (fun d h => (delim_facts h).1) hw hd, Conform.longest_single]

theorem value_append (b : Nat) : ∀ (l m : List Char) (a : Nat), value b (l ++ m) a = value b m (value b l a)
  | [], m, a => rfl
  | c :: l, m, a => by simp only [List.cons_append, value]; exact value_append b l m _

theorem value10_ofDigitChars : ∀ (l : List Char) (a : Nat), (∀ c ∈ l, digit c = true) →
    value 10 l a = Nat.ofDigitChars 10 l a
  | [], a, _ => by simp [value]
  | c :: l, a, h => by
    rw [value, Nat.ofDigitChars_cons, value10_ofDigitChars l _ (fun d hd => h d (by simp [hd]))]
    have : valOf c = c.toNat - '0'.toNat := by simp [valOf, h c (by simp)]
    rw [this, Nat.mul_comm]

theorem natDigits_facts (n : Nat) : Parse.natDigits n ≠ [] ∧ (∀ c ∈ Parse.natDigits n, digit c = true) ∧
    value 10 (Parse.natDigits n) 0 = n := by
  have e : Parse.natDigits n = Nat.toDigits 10 n := by
    simp [Parse.natDigits, Nat.toString_eq_repr, Nat.toList_repr]
  rw [e]
  -- `LexSpec.digit` unfolds to `Char.isDigit`
  have hd : ∀ c ∈ Nat.toDigits 10 n, digit c = true :=
    fun c hc => Nat.isDigit_of_mem_toDigits (by decide) (by decide) hc
  exact ⟨Nat.toDigits_ne_nil, hd, by rw [value10_ofDigitChars _ _ hd]; exact Nat.ofDigitChars_ten_toDigits⟩

theorem p_decimal (ds : List Char) (hne : ds ≠ []) (hd : ∀ c ∈ ds, digit c = true)
    (hv : value 10 ds 0 < 4294967296) : PDel ds [.Int (.Int (value 10 ds 0))] := by
  obtain ⟨c, tl, rfl⟩ := List.exists_cons_of_ne_nil hne
  have hc : digit c = true := hd c (List.mem_cons_self ..)
  have hc' : isDigit c = true := Conform.digit_eq c ▸ hc
  have htw : ∀ rest, Delim rest → (c :: (tl ++ rest)).takeWhile digit = c :: tl := fun rest hdl =>
    run_delim (fun d h => (delim_facts h).2.1) hd hdl
  have hnx : ∀ rest, Delim rest → ∀ r, c :: (tl ++ rest) ≠ '0' :: 'x' :: r := by
    intro rest hdl r e
    have e2 := (List.cons.inj e).2
    cases tl with
    | nil =>
      rcases hdl with rfl | ⟨d, r', rfl, hdd⟩
      · cases e2
      · exact (delim_facts hdd).2.2.2 (List.cons.inj e2).1
    | cons t tl' =>
      have := hd t (by simp)
      rw [(List.cons.inj e2).1] at this
      cases this
  refine tok_piece c tl _ _ (ws_wordChar (by simp [wordChar, hc])) (fun rest hdl => ?_) (fun rest hdl => ?_)
  · rw [Conform.proposals_digit hc', Conform.spec_hex_not0x c _ (hnx rest hdl), decimal, htw rest hdl]
    rfl
  · unfold malformedAt
    split
    · rename_i r heq; exact absurd heq (hnx rest hdl r)
    · rename_i heq; exact absurd (List.cons.inj heq).1 (Conform.digit_facts hc').2.1
    · rw [htw rest hdl, Bool.and_eq_false_iff, decide_eq_false_iff_not]
      exact Or.inr (Nat.not_le_of_lt hv)
    · rfl

def hexChar (d : Nat) : Char := if d < 10 then Char.ofNat (48 + d) else Char.ofNat (55 + d)

theorem hexChar_facts : ∀ d, d < 16 → hexdigit (hexChar d) = true ∧ valOf (hexChar d) = d := by decide

theorem hexGo_spec : ∀ (fuel n : Nat) (acc : List Char), n < 16 ^ (fuel + 1) →
    ∃ ds, Parse.hexUpper.go (fuel + 1) n acc = ds ++ acc ∧ ds ≠ [] ∧ (∀ c ∈ ds, hexdigit c = true) ∧
      ∀ a, value 16 ds a = a * 16 ^ ds.length + n := by
  intro fuel n
  induction n using Nat.strongRecOn generalizing fuel with
  | ind n ih =>
    intro acc h
    have hc := hexChar_facts (n % 16) (Nat.mod_lt _ (by decide))
    have hn := Nat.div_add_mod n 16
    have step : Parse.hexUpper.go (fuel + 1) n acc = if n / 16 == 0 then hexChar (n % 16) :: acc else
      Parse.hexUpper.go fuel (n / 16) (hexChar (n % 16) :: acc) := rfl
    by_cases hz : n / 16 = 0
    · refine ⟨[hexChar (n % 16)], by rw [step, hz]; rfl, List.cons_ne_nil _ _,
        fun c hm => List.mem_singleton.mp hm ▸ hc.1, fun a => ?_⟩
      rw [value, value, hc.2, List.length_singleton, Nat.pow_one]
      omega
    · cases fuel with
      | zero => omega
      | succ fuel =>
        obtain ⟨ds, e, _, hall, hv⟩ := ih (n / 16) (by omega) fuel (hexChar (n % 16) :: acc)
          (Nat.div_lt_of_lt_mul (by rw [Nat.pow_succ, Nat.mul_comm] at h; exact h))
        refine ⟨ds ++ [hexChar (n % 16)], by rw [step, if_neg (by simpa using hz), e, List.append_assoc]; rfl,
          List.append_ne_nil_of_right_ne_nil _ (List.cons_ne_nil _ _), fun c hm => ?_, fun a => ?_⟩
        · rcases List.mem_append.mp hm with h1 | h1
          · exact hall c h1
          · exact List.mem_singleton.mp h1 ▸ hc.1
        · rw [value_append, hv a, value, value, hc.2, List.length_append, List.length_singleton, Nat.pow_succ, Nat.add_mul,
            Nat.mul_assoc]
          omega
theorem fmtHex_facts (n : Nat) (hn : n < 4294967296) :
    ∃ hs, Parse.fmtHex04 n = '0' :: 'x' :: hs ∧ hs ≠ [] ∧ (∀ c ∈ hs, hexdigit c = true) ∧ value 16 hs 0 = n := by
  obtain ⟨ds, e, hne, hall, hv⟩ := hexGo_spec 63 n [] (by omega)
  rw [List.append_nil] at e
  have hv0 : value 16 ds 0 = n := by rw [hv 0, Nat.zero_mul, Nat.zero_add]
  rw [Parse.fmtHex04, show Parse.hexUpper n = ds from e]
  split
  · exact ⟨'0' :: ds, rfl, List.cons_ne_nil _ _, List.forall_mem_cons.mpr ⟨by decide, hall⟩, hv0⟩
  · exact ⟨ds, rfl, hne, hall, hv0⟩

theorem p_hex (hs : List Char) (hne : hs ≠ []) (hd : ∀ c ∈ hs, hexdigit c = true)
    (hv : value 16 hs 0 < 4294967296) : PDel ('0' :: 'x' :: hs) [.Hex (.Int (value 16 hs 0))] := by
  have htw : ∀ rest, Delim rest → (hs ++ rest).takeWhile hexdigit = hs := fun rest hdl =>
    run_delim (fun d h => (delim_facts h).2.2.1) hd hdl
  have hnil : hs.isEmpty = false := by rwa [Bool.eq_false_iff, Ne, List.isEmpty_iff]
  refine tok_piece '0' ('x' :: hs) _ _ rfl (fun rest hdl => ?_) (fun rest hdl => ?_)
  · rw [List.cons_append, Conform.proposals_digit rfl, hexadecimal, htw rest hdl, hnil,
      show decimal ('0' :: 'x' :: (hs ++ rest)) = [(1, .Int (.Int 0))] from rfl]
    exact (Conform.longest_two _ _ (by simp only [gt_iff_lt]; omega)).trans (by rw [Nat.add_comm]; rfl)
  · rw [List.cons_append, malformedAt, htw rest hdl, hnil, Bool.false_or, decide_eq_false_iff_not]
    exact Nat.not_le_of_lt hv

/-- the text of a character literal: after the tick only `charLit` proposes, and `charLit` proposes the whole -/
theorem tick_piece (tl : List Char) (ch : Char)
    (h : ∀ rest, charLit ('\'' :: (tl ++ rest)) = [(tl.length + 1, .Char ch)]) : PAny ('\'' :: tl) [.Char ch] := by
  refine tok_piece '\'' tl _ _ rfl (fun rest _ => ?_) (fun rest _ => ?_)
  · rw [Conform.proposals_tick, h]
    rfl
  · show (charLit ('\'' :: (tl ++ rest))).isEmpty = false
    rw [h]
    rfl

theorem p_char (c : Char) : PAny (Parse.displayToken (.Char c)) [.Char c] := by
  by_cases hn : c = '\n'
  · subst hn; exact tick_piece ['\\', 'n', '\''] _ (fun _ => rfl)
  · rw [show Parse.displayToken (.Char c) = ['\'', c, '\''] by simp [Parse.displayToken, hn]]
    refine tick_piece [c, '\''] _ (fun rest => ?_)
    unfold charLit
    split
    · rename_i heq; simp at heq
    · rename_i c' r heq; simp only [List.cons_append, List.nil_append, List.cons.injEq, true_and] at heq; obtain ⟨rfl, _⟩ := heq; rfl
    · rename_i h1 h2; exact absurd rfl (h2 c rest)

end Spl.FmtLex
