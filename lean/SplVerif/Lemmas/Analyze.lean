/-
  Lemmas for C02: the symbol-table and semantic passes never panic on a tree whose identifiers have a range that
  ends behind position 0 (`IdI`; every identifier the parser produces covers a token, so its range does).

  The passes can panic in three places: `Identifier::to_error` asserts that the end of the identifier's range is
  positive (`IdI`), `table::build` insists that an entry named `main` is a procedure (type declarations named `main` are
  never entered), and `analyze` expects an entry for every named procedure declaration (`build` has entered one,
  or found one already there).
-/
import SplVerif.Model.Table

namespace Spl.AnalyzeTotal
open Spl

def IdI (i : Identifier) : Prop := 0 < i.info.range.hi

mutual
  def IdV : Var → Prop
    | .named n => IdI n
    | .access a idx _ => IdV a ∧ IdOE idx
  def IdE : Expr → Prop
    | .binary _ l r _ => IdE l ∧ IdE r
    | .bracketed e _ => IdE e
    | .intLit _ => True
    | .unary _ e _ => IdE e
    | .var v => IdV v
    | .error _ => True
  def IdOE : OptExpr → Prop
    | .none => True
    | .some e _ => IdE e
end

mutual
  def IdT : TypeExpr → Prop
    | .named n => IdI n
    | .array _ base _ => IdOT base
  def IdOT : OptType → Prop
    | .none => True
    | .some t _ => IdT t
end

def IdCall (c : CallStmt) : Prop := ∀ a ∈ c.args, IdE a.val
def IdAssign (a : Assignment) : Prop := IdV a.target ∧ ∀ r, a.expr = some r → IdE r.val

mutual
  def IdS : Stmt → Prop
    | .empty _ => True
    | .assign a => IdAssign a
    | .call c => IdCall c
    | .ifS c t e _ => (∀ r, c = some r → IdE r.val) ∧ IdOS t ∧ IdOS e
    | .whileS c b _ => (∀ r, c = some r → IdE r.val) ∧ IdOS b
    | .block ss _ => IdSL ss
    | .error _ => True
  def IdOS : OptStmt → Prop
    | .none => True
    | .some s _ => IdS s
  def IdSL : StmtList → Prop
    | .nil => True
    | .cons s _ r => IdS s ∧ IdSL r
end


theorem flag_ok {i : Identifier} (h : IdI i) (msg : List Char → Msg) :
    ∃ i', i.flag msg = .ok i' ∧ i'.value = i.value ∧ IdI i' :=
  ⟨i.addError _, by rw [Identifier.flag, Identifier.toError, if_pos (show i.info.range.hi > 0 from h)], rfl, h⟩

theorem ok_map {ε α β} {x : Except ε α} (f : α → β) : (∃ a, x = .ok a) → ∃ b, x.map f = .ok b
  | ⟨a, h⟩ => ⟨f a, congrArg (Except.map f) h⟩

theorem flag_map_ok {α} {i : Identifier} (h : IdI i) (msg : List Char → Msg) (f : Identifier → α) :
    ∃ r, (i.flag msg).map f = .ok r :=
  ok_map f ((flag_ok h msg).imp fun _ h => h.1)

theorem idE_addError (e : Expr) (err : SplError) : IdE (e.addError err) ↔ IdE e := by
  match e with
  | .var (.named _) | .var (.access ..) | .binary .. | .bracketed .. | .error _ | .unary .. | .intLit _ => exact Iff.rfl

mutual
  theorem analyzeVar_total (sc : Scope) : ∀ (v : Var), IdV v → ∃ r, analyzeVar sc v = .ok r
    | .named n, h => by
      rw [analyzeVar]
      split <;> first | exact ⟨_, rfl⟩ | exact flag_map_ok h _ _
    | .access a idx info, h => by
      obtain ⟨i', hi⟩ := analyzeIndex_total sc idx h.2
      obtain ⟨⟨a', t⟩, hr⟩ := analyzeVar_total sc a h.1
      simp only [analyzeVar, hi, hr]
      split <;> exact ⟨_, rfl⟩
  theorem analyzeIndex_total (sc : Scope) : ∀ (o : OptExpr), IdOE o → ∃ r, analyzeIndex sc o = .ok r
    | .none, _ => ⟨_, rfl⟩
    | .some e off, h => by
      obtain ⟨⟨e', t⟩, hr⟩ := analyzeExpr_total sc e h
      simp only [analyzeIndex, hr]
      split <;> exact ⟨_, rfl⟩
  theorem analyzeExpr_total (sc : Scope) : ∀ (e : Expr), IdE e → ∃ r, analyzeExpr sc e = .ok r
    | .intLit l, _ | .error i, _ => ⟨_, rfl⟩
    | .var v, h => ok_map _ (analyzeVar_total sc v h)
    | .unary op e i, h => by
      obtain ⟨r, hr⟩ := analyzeExpr_total sc e h
      exact ⟨_, by rw [analyzeExpr, hr]⟩
    | .bracketed e i, h => ok_map _ (analyzeExpr_total sc e h)
    | .binary op l r i, h => by
      obtain ⟨rl, hl⟩ := analyzeExpr_total sc l h.1
      obtain ⟨rr, hrr⟩ := analyzeExpr_total sc r h.2
      exact ⟨_, by rw [analyzeExpr, hl, hrr]⟩
end

theorem analyzeCondition_total (sc : Scope) (c : Option (Ref Expr)) (msg : Msg) (h : ∀ r, c = some r → IdE r.val) :
    ∃ r, analyzeCondition sc c msg = .ok r := by
  match c with
  | none => exact ⟨_, rfl⟩
  | some r =>
    obtain ⟨⟨e, t⟩, hx⟩ := analyzeExpr_total sc r.val (h r rfl)
    simp only [analyzeCondition, hx]
    split <;> exact ⟨_, rfl⟩

theorem analyzeArgs_total (sc : Scope) (name : List Char) : ∀ (args : List (Ref Expr)) (ps : List VariableEntry) (i : Nat),
    (∀ a ∈ args, IdE a.val) → ∃ r, analyzeArgs sc name args ps i = .ok r
  | [], _, _, _ => ⟨_, by rw [analyzeArgs]⟩
  | a :: as, [], _, _ => by
    simp only [analyzeArgs]
    exact ⟨_, rfl⟩
  | a :: as, p :: ps, i, h => by
    have ha : IdE (refArgExpr a p name i) := by
      simp only [refArgExpr, apply_ite IdE, idE_addError, ite_self]
      exact h a (List.mem_cons_self ..)
    obtain ⟨⟨a2, argT⟩, hx⟩ := analyzeExpr_total sc _ ha
    obtain ⟨rest, hrest⟩ := analyzeArgs_total sc name as ps (i + 1) fun b hb => h b (List.mem_cons_of_mem _ hb)
    simp only [analyzeArgs, hx, hrest]
    exact ⟨_, rfl⟩

theorem analyzeCall_total (sc : Scope) (c : CallStmt) (h : IdCall c) : ∃ r, analyzeCall sc c = .ok r := by
  rw [analyzeCall]
  split
  · rename_i pe _
    obtain ⟨args, ha⟩ := analyzeArgs_total sc c.name.value c.args pe.parameters 0 h
    rw [ha]
    exact ⟨_, rfl⟩
  · exact ⟨_, rfl⟩
  · exact ⟨_, rfl⟩

theorem analyzeAssignment_total (sc : Scope) (a : Assignment) (h : IdAssign a) : ∃ r, analyzeAssignment sc a = .ok r := by
  rw [analyzeAssignment]
  split
  · exact ⟨_, rfl⟩
  · rename_i r he
    obtain ⟨⟨v', lt⟩, hx⟩ := analyzeVar_total sc a.target h.1
    obtain ⟨⟨e', rt⟩, hy⟩ := analyzeExpr_total sc r.val (h.2 r he)
    simp only [hx, analyzeRefExpr, hy, Except.map]
    exact ⟨_, rfl⟩

mutual
  theorem analyzeStmt_total (sc : Scope) : ∀ (s : Stmt), IdS s → ∃ r, analyzeStmt sc s = .ok r
    | .assign a, h => ok_map _ (analyzeAssignment_total sc a h)
    | .call c, h => ok_map _ (analyzeCall_total sc c h)
    | .block ss i, h => ok_map _ (analyzeStmtList_total sc ss h)
    | .ifS c t e i, h => by
      obtain ⟨c', hc⟩ := analyzeCondition_total sc c .IfConditionMustBeBoolean h.1
      obtain ⟨t', ht⟩ := analyzeOptStmt_total sc t h.2.1
      obtain ⟨e', he⟩ := analyzeOptStmt_total sc e h.2.2
      exact ⟨_, by rw [analyzeStmt, hc, ht, he]⟩
    | .whileS c b i, h => by
      obtain ⟨c', hc⟩ := analyzeCondition_total sc c .WhileConditionMustBeBoolean h.1
      obtain ⟨b', hb⟩ := analyzeOptStmt_total sc b h.2
      exact ⟨_, by rw [analyzeStmt, hc, hb]⟩
    | .empty i, _ | .error i, _ => ⟨_, rfl⟩
  theorem analyzeOptStmt_total (sc : Scope) : ∀ (o : OptStmt), IdOS o → ∃ r, analyzeOptStmt sc o = .ok r
    | .none, _ => ⟨_, rfl⟩
    | .some s _, h => ok_map _ (analyzeStmt_total sc s h)
  theorem analyzeStmtList_total (sc : Scope) : ∀ (l : StmtList), IdSL l → ∃ r, analyzeStmtList sc l = .ok r
    | .nil, _ => ⟨_, rfl⟩
    | .cons s o r, h => by
      obtain ⟨s', hs⟩ := analyzeStmt_total sc s h.1
      obtain ⟨r', hr⟩ := analyzeStmtList_total sc r h.2
      rw [analyzeStmtList, hs, hr]
      exact ⟨_, rfl⟩
end

theorem analyzeRefStmts_total (sc : Scope) : ∀ (l : List (Ref Stmt)), (∀ s ∈ l, IdS s.val) → ∃ r, analyzeRefStmts sc l = .ok r
  | [], _ => ⟨_, rfl⟩
  | r :: rs, h => by
    obtain ⟨s', hs⟩ := analyzeStmt_total sc r.val (h r (List.mem_cons_self ..))
    obtain ⟨rs', hr⟩ := analyzeRefStmts_total sc rs fun x hx => h x (List.mem_cons_of_mem _ hx)
    rw [analyzeRefStmts, hs, hr]
    exact ⟨_, rfl⟩

/- Tables only grow, by appending: what `analyze` needs (an entry for every named procedure) and what
   `build` needs (no type named `main`) are said of the entries as a list, not through `lookup`. -/

theorem lookup_isSome {α} {t : List (List Char × α)} {k : List Char} {v : α} (h : (k, v) ∈ t) :
    (tblLookup t k).isSome := by
  rw [tblLookup, Option.isSome_map, List.find?_isSome]
  exact ⟨_, h, beq_self_eq_true k⟩

theorem mem_of_lookup {α} {t : List (List Char × α)} {k : List Char} {v : α} (h : tblLookup t k = some v) :
    (k, v) ∈ t := by
  obtain ⟨⟨k', v'⟩, hf, rfl⟩ := Option.map_eq_some_iff.mp h
  cases eq_of_beq (List.find?_some (p := fun e : List Char × α => e.1 == k) hf)
  exact List.mem_of_find?_eq_some hf

theorem enter_some {α} {t t' : List (List Char × α)} {k : List Char} {v : α} (h : tblEnter t k v = some t') :
    t' = t ++ [(k, v)] := by
  rw [tblEnter] at h
  split at h <;> cases h
  rfl

theorem enter_none {α} {t : List (List Char × α)} {k : List Char} {v : α} (h : tblEnter t k v = none) :
    ∃ v', (k, v') ∈ t := by
  rw [tblEnter] at h
  split at h <;> cases h
  rename_i h
  obtain ⟨⟨k', v'⟩, hm, hk⟩ := List.any_eq_true.mp h
  cases eq_of_beq hk
  exact ⟨v', hm⟩

def NTM (t : GlobalTable) : Prop := ∀ e, ("main".toList, GlobalEntry.type e) ∉ t

theorem NTM.snoc {t : GlobalTable} {k : List Char} {v : GlobalEntry} (hm : NTM t)
    (h : ∀ e, v = .type e → k ≠ "main".toList) : NTM (t ++ [(k, v)]) := by
  intro e he
  rcases List.mem_append.mp he with he | he
  · exact hm e he
  · cases List.mem_singleton.mp he
    exact h e rfl rfl

mutual
  theorem getDataType_total (l : Option LocalTable) (g : GlobalTable) (c : Option (List Char)) :
      ∀ (t : TypeExpr), IdT t → ∃ r, getDataType l g c t = .ok r
    | .named n, h => by
      rw [getDataType]
      split
      · exact ⟨_, rfl⟩
      · split <;> first | exact ⟨_, rfl⟩ | exact flag_map_ok h _ _
    | .array size base info, h => getDataTypeOpt_total l g c base h size info
  theorem getDataTypeOpt_total (l : Option LocalTable) (g : GlobalTable) (c : Option (List Char)) :
      ∀ (base : OptType), IdOT base → ∀ size info, ∃ r, getDataType l g c (.array size base info) = .ok r
    | .none, _, size, info => ⟨_, by rw [getDataType]⟩
    | .some t off, h, size, info => by
      obtain ⟨⟨t', bt⟩, hr⟩ := getDataType_total l g c t h
      simp only [getDataType, hr]
      exact ⟨_, rfl⟩
end

theorem getDataTypeRef_total (l : Option LocalTable) (g : GlobalTable) (c : Option (List Char))
    (te : Option (Ref TypeExpr)) (h : ∀ r, te = some r → IdT r.val) : ∃ r, getDataTypeRef l g c te = .ok r := by
  match te with
  | none => exact ⟨_, rfl⟩
  | some r =>
    obtain ⟨⟨t', dt⟩, hx⟩ := getDataType_total l g c r.val (h r rfl)
    simp only [getDataTypeRef, hx]
    exact ⟨_, rfl⟩

def IdTD (td : TypeDecl) : Prop := (∀ n, td.name = some n → IdI n) ∧ (∀ r, td.typeExpr = some r → IdT r.val)

def IdParam : ParamDecl → Prop
  | .valid _ _ n t _ => (∀ x, n = some x → IdI x) ∧ (∀ r, t = some r → IdT r.val)
  | .error _ => True

def IdVarD : VarDecl → Prop
  | .valid _ n t _ => (∀ x, n = some x → IdI x) ∧ (∀ r, t = some r → IdT r.val)
  | .error _ => True

def IdPD (pd : ProcDecl) : Prop :=
  (∀ n, pd.name = some n → IdI n) ∧ (∀ p ∈ pd.params, IdParam p.val) ∧ (∀ v ∈ pd.vars, IdVarD v.val) ∧
  (∀ s ∈ pd.stmts, IdS s.val)

def IdGD : GlobalDecl → Prop
  | .type td => IdTD td
  | .proc pd => IdPD pd
  | .error _ => True

def IdProg (p : Program) : Prop := ∀ d ∈ p.decls, IdGD d.val


theorem buildTypeDecl_total (td : TypeDecl) (t : GlobalTable) (off : Nat) (h : IdTD td) (hm : NTM t) :
    ∃ td' t', buildTypeDecl td t off = .ok (td', t') ∧ t ⊆ t' ∧ NTM t' := by
  rw [buildTypeDecl]
  split
  · exact ⟨_, _, rfl, List.Subset.refl t, hm⟩
  · rename_i name hn
    split
    · exact ⟨_, _, rfl, List.Subset.refl t, hm⟩
    · rename_i hmain
      obtain ⟨⟨te', dt⟩, hr⟩ := getDataTypeRef_total none t (some name.value) td.typeExpr h.2
      simp only [hr]
      split
      · rename_i he
        cases enter_some he
        exact ⟨_, _, rfl, List.subset_append_left .., hm.snoc fun _ _ hk => hmain (hk ▸ beq_self_eq_true _)⟩
      · obtain ⟨n', e, _⟩ := flag_ok (h.1 name hn) .RedeclarationAsType
        simp only [e]
        exact ⟨_, _, rfl, List.Subset.refl t, hm⟩

/-- Entering a name in a local table, or flagging the identifier where it is there already, does not panic for an
    identifier with `IdI`.  The `match` is stated with the concrete table type, so that it is the very matcher of
    `buildParameter` and `buildVariable`. -/
theorem enter_or_flag_ok {β} {n : Identifier} (hn : IdI n) (msg : List Char → Msg) (E : Option LocalTable) (K1 : LocalTable → β)
    (K2 : Identifier → β) : ∃ r : β, (match E with
      | some l' => (Except.ok (K1 l') : Except Panic β)
      | none =>
        match n.flag msg with
        | .error e => .error e
        | .ok n2 => .ok (K2 n2)) = .ok r := by
  split
  · exact ⟨_, rfl⟩
  · obtain ⟨n2, h2, _⟩ := flag_ok hn msg
    exact ⟨_, by rw [h2]⟩

theorem buildParameter_total (p : Ref ParamDecl) (procedure : List Char) (g : GlobalTable) (l : LocalTable)
    (h : IdParam p.val) : ∃ r, buildParameter p procedure g l = .ok r := by
  obtain ⟨pv, off⟩ := p
  match pv, h with
  | .error _, _ | .valid _ _ none _ _, _ => exact ⟨_, rfl⟩
  | .valid doc isRef (some name) te info, h =>
    have hn : IdI name := h.1 name rfl
    obtain ⟨⟨te', dt⟩, hr⟩ := getDataTypeRef_total none g (some (anonymousCreator procedure name)) te h.2
    obtain ⟨n', hf, _, hn'⟩ := flag_ok hn .MustBeAReferenceParameter
    cases dt with
    | none =>
      simp only [buildParameter, hr]
      exact enter_or_flag_ok hn _ _ _ _
    | some d =>
      simp only [buildParameter, hr]
      by_cases hc : (!d.isPrimitive && !isRef) = true
      · simp only [if_pos hc, hf]
        exact enter_or_flag_ok hn' _ _ _ _
      · simp only [if_neg hc]
        exact enter_or_flag_ok hn _ _ _ _

theorem buildVariable_total (v : Ref VarDecl) (procedure : List Char) (g : GlobalTable) (l : LocalTable)
    (h : IdVarD v.val) : ∃ r, buildVariable v procedure g l = .ok r := by
  obtain ⟨vv, off⟩ := v
  match vv, h with
  | .error _, _ | .valid _ none _ _, _ => exact ⟨_, rfl⟩
  | .valid doc (some name) te info, h =>
    obtain ⟨⟨te', dt⟩, hr⟩ := getDataTypeRef_total (some l) g (some (anonymousCreator procedure name)) te h.2
    simp only [buildVariable, hr]
    exact enter_or_flag_ok (h.1 name rfl) _ _ _ _

theorem buildParams_total (procedure : List Char) (g : GlobalTable) : ∀ (ps : List (Ref ParamDecl)) (l : LocalTable),
    (∀ p ∈ ps, IdParam p.val) → ∃ r, buildParams procedure g ps l = .ok r
  | [], _, _ => ⟨_, rfl⟩
  | p :: ps, l, h => by
    obtain ⟨⟨p', l1, ent⟩, hr⟩ := buildParameter_total p procedure g l (h p (List.mem_cons_self ..))
    obtain ⟨⟨ps', l2, ents⟩, hr2⟩ := buildParams_total procedure g ps l1 fun x hx => h x (List.mem_cons_of_mem _ hx)
    simp only [buildParams, hr, hr2]
    exact ⟨_, rfl⟩

theorem buildVars_total (procedure : List Char) (g : GlobalTable) : ∀ (vs : List (Ref VarDecl)) (l : LocalTable),
    (∀ v ∈ vs, IdVarD v.val) → ∃ r, buildVars procedure g vs l = .ok r
  | [], _, _ => ⟨_, rfl⟩
  | v :: vs, l, h => by
    obtain ⟨⟨v', l1⟩, hr⟩ := buildVariable_total v procedure g l (h v (List.mem_cons_self ..))
    obtain ⟨⟨vs', l2⟩, hr2⟩ := buildVars_total procedure g vs l1 fun x hx => h x (List.mem_cons_of_mem _ hx)
    simp only [buildVars, hr, hr2]
    exact ⟨_, rfl⟩

/-- what `analyze` needs of a built procedure declaration -/
def ProcOK (t : GlobalTable) (pd : ProcDecl) : Prop :=
  (∀ n, pd.name = some n → ∃ v, (n.value, v) ∈ t) ∧ ∀ s ∈ pd.stmts, IdS s.val

theorem buildProcDecl_total (pd : ProcDecl) (t : GlobalTable) (off : Nat) (h : IdPD pd) (hm : NTM t) :
    ∃ pd' t', buildProcDecl pd t off = .ok (pd', t') ∧ t ⊆ t' ∧ NTM t' ∧ ProcOK t' pd' := by
  rw [buildProcDecl]
  split
  · rename_i hn
    exact ⟨_, _, rfl, List.Subset.refl t, hm, ⟨fun n hx => (nomatch hn.symm.trans hx), h.2.2.2⟩⟩
  · rename_i name hn
    obtain ⟨⟨params', l1, ents⟩, hr⟩ := buildParams_total name.value t pd.params [] h.2.1
    obtain ⟨⟨vars', l2⟩, hr2⟩ := buildVars_total name.value t pd.vars l1 h.2.2.1
    simp only [hr, hr2]
    split
    · rename_i he
      cases enter_some he
      refine ⟨_, _, rfl, List.subset_append_left .., hm.snoc (fun _ h => nomatch h), ⟨fun n hx => ?_, h.2.2.2⟩⟩
      cases hn.symm.trans hx
      exact ⟨_, List.mem_append_right _ (List.mem_singleton_self _)⟩
    · rename_i he
      obtain ⟨n', e, hv, _⟩ := flag_ok (h.1 name hn) .RedeclarationAsProcedure
      simp only [e]
      refine ⟨_, _, rfl, List.Subset.refl t, hm, ⟨fun n hx => ?_, h.2.2.2⟩⟩
      cases hx
      exact hv ▸ enter_none he

def DeclsOK (t : GlobalTable) (ds : List (Ref GlobalDecl)) : Prop :=
  ∀ d ∈ ds, ∀ pd, d.val = .proc pd → ProcOK t pd

theorem DeclsOK.cons {t1 t2 : GlobalTable} {dv : GlobalDecl} {dof : Nat} {ds : List (Ref GlobalDecl)}
    (h2 : DeclsOK t2 ds) (x : t1 ⊆ t2) (h1 : ∀ pd, dv = .proc pd → ProcOK t1 pd) : DeclsOK t2 (⟨dv, dof⟩ :: ds) := by
  intro d hd pd hpd
  cases hd with
  | head => exact ⟨fun n hn => ((h1 pd hpd).1 n hn).imp fun _ hm => x hm, (h1 pd hpd).2⟩
  | tail _ hd => exact h2 d hd pd hpd

theorem buildDecls_total : ∀ (ds : List (Ref GlobalDecl)) (t : GlobalTable) (off : Nat), (∀ d ∈ ds, IdGD d.val) → NTM t →
    ∃ ds' t', buildDecls ds t off = .ok (ds', t') ∧ t ⊆ t' ∧ NTM t' ∧ DeclsOK t' ds'
  | [], t, _, _, hm => ⟨[], t, rfl, List.Subset.refl t, hm, fun _ h => nomatch h⟩
  | ⟨dv, dof⟩ :: ds, t, off, h, hm => by
    have hrest := fun t1 m1 => buildDecls_total ds t1 off (fun x hx => h x (List.mem_cons_of_mem _ hx)) m1
    match dv, h _ (List.mem_cons_self ..) with
    | .type td, hd =>
      obtain ⟨td', t1, e, x1, m1⟩ := buildTypeDecl_total td t (off + dof) hd hm
      obtain ⟨ds', t2, e2, x2, m2, p2⟩ := hrest t1 m1
      exact ⟨⟨.type td', dof⟩ :: ds', t2, by simp only [buildDecls, e, Except.map, e2], List.Subset.trans x1 x2, m2,
        p2.cons x2 fun _ h => nomatch h⟩
    | .proc pd, hd =>
      obtain ⟨pd', t1, e, x1, m1, p1⟩ := buildProcDecl_total pd t (off + dof) hd hm
      obtain ⟨ds', t2, e2, x2, m2, p2⟩ := hrest t1 m1
      exact ⟨⟨.proc pd', dof⟩ :: ds', t2, by simp only [buildDecls, e, Except.map, e2], List.Subset.trans x1 x2, m2,
        p2.cons x2 fun _ h => GlobalDecl.proc.inj h ▸ p1⟩
    | .error i, _ =>
      obtain ⟨ds', t2, e2, x2, m2, p2⟩ := hrest t hm
      exact ⟨⟨.error i, dof⟩ :: ds', t2, by simp only [buildDecls, e2], x2, m2, p2.cons x2 fun _ h => nomatch h⟩

/-- `int` is the only type of the initial table.  The names are compared as character lists, which the kernel
    need not decode from the literals. -/
theorem ntm_initial : NTM initialTable := by
  intro e h
  rcases List.mem_cons.mp h with h | h
  · exact absurd ((String.toList_ofList.symm.trans (congrArg Prod.fst h)).trans String.toList_ofList)
      (by decide : ['m', 'a', 'i', 'n'] ≠ ['i', 'n', 't'])
  · obtain ⟨_, _, hr⟩ := List.mem_map.mp h
    exact nomatch congrArg Prod.snd hr

theorem build_total (p : Program) (h : IdProg p) : ∃ p' t, build p = .ok (p', t) ∧ DeclsOK t p'.decls := by
  obtain ⟨ds', t, e, _, hm, hok⟩ := buildDecls_total p.decls initialTable 0 h ntm_initial
  simp only [build, e]
  split
  · split <;> exact ⟨_, t, rfl, hok⟩
  · rename_i te hl
    exact absurd (mem_of_lookup hl) (hm te)
  · exact ⟨_, t, rfl, hok⟩

theorem analyzeDecls_total (t : GlobalTable) : ∀ (ds : List (Ref GlobalDecl)), DeclsOK t ds → ∃ r, analyzeDecls t ds = .ok r
  | [], _ => ⟨_, rfl⟩
  | d :: ds, h => by
    obtain ⟨rs, hrs⟩ := analyzeDecls_total t ds fun x hx => h x (List.mem_cons_of_mem _ hx)
    have hp := h d (List.mem_cons_self ..)
    rw [analyzeDecls]
    split
    · rename_i e he
      split at he
      · rename_i pd hv
        split at he
        · cases he
        · rename_i name hn
          split at he
          · rename_i hl
            obtain ⟨v, hm⟩ := (hp pd hv).1 name hn
            exact absurd (lookup_isSome hm) (hl ▸ Bool.false_ne_true)
          · rename_i pe _
            obtain ⟨ss, hss⟩ := analyzeRefStmts_total ⟨some pe.localTable, t⟩ pd.stmts (hp pd hv).2
            rw [hss] at he
            cases he
          · cases he
      · cases he
    · simp only [hrs, Except.map]
      exact ⟨_, rfl⟩

/-- **the symbol-table and semantic passes never panic** on a program whose identifiers all satisfy `IdI` -/
theorem build_analyze_total (p : Program) (h : IdProg p) :
    ∃ p1 t p2, build p = .ok (p1, t) ∧ analyze p1 t = .ok p2 := by
  obtain ⟨p1, t, e, hok⟩ := build_total p h
  obtain ⟨ds, hds⟩ := analyzeDecls_total t p1.decls hok
  exact ⟨p1, t, _, e, congrArg (Except.map _) hds⟩

end Spl.AnalyzeTotal
