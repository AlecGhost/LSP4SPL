/-
  Infrastructure for C07 (`lexer::update` = `lexer::lex` of the new text):
  a total view `lexL` of the token loop, its induction principle, cuts (token boundaries),
  re-offsetting, and stability of the unaffected head under a change of the text behind it.
  Look-ahead locality of the one-token lexer is stated here (`LexLocal`) and proved in `Lemmas/LexLocal`; under it
  the old head, the re-lexed middle and the re-offset old tail fit together (`stitch`) to the lexing of the new
  text (`lexUpdate_spec`), and the reported change window is truthful (`lexUpdate_window`).
-/
import SplVerif.Lemmas.Lex

namespace Spl

theorem lexGo_skip (r : List Char) (o k : Nat) :
    lexGo r o k = lexGo (r.drop k) (o + utf8Len (r.take k)) 0 := by
  induction r generalizing o k with
  | nil => cases k <;> rfl
  | cons c cs ih =>
    cases k with
    | zero => rfl
    | succ k =>
      simp only [lexGo, List.drop_succ_cons, List.take_succ_cons, utf8Len_cons]
      rw [ih, Nat.add_assoc]

theorem lexGo_total (r : List Char) (o k : Nat) : ∃ ts, lexGo r o k = some ts := by
  induction r generalizing o k with
  | nil => exact ⟨[], rfl⟩
  | cons c cs ih =>
    cases k with
    | succ k => exact ih _ _
    | zero =>
      simp only [lexGo]
      split
      · exact ih _ _
      · obtain ⟨o', ho'⟩ := lexOne_total c cs
        obtain ⟨ts, hts⟩ := ih (o + c.utf8Size) (o'.n - 1)
        exact ⟨mkToken o' (c :: cs) o :: ts, by simp only [ho', hts]⟩

def lexL (s : List Char) (off : Nat) : List Token := (lexGo s off 0).getD []

theorem lexGo_eq_lexL (s : List Char) (off : Nat) : lexGo s off 0 = some (lexL s off) := by
  obtain ⟨ts, h⟩ := lexGo_total s off 0
  rw [lexL, h]; rfl

theorem lex_eq (s : List Char) : lex s = .ok (lexL s 0 ++ [eofToken (utf8Len s)]) := by
  simp only [lex, lexGo_eq_lexL]

@[simp] theorem lexL_nil (off : Nat) : lexL [] off = [] := rfl

theorem lexL_space {c : Char} {cs : List Char} {off : Nat} (h : isSpace c = true) :
    lexL (c :: cs) off = lexL cs (off + c.utf8Size) := by
  simp only [lexL, lexGo, h, if_true]

theorem lexL_token {c : Char} {cs : List Char} {off : Nat} {o : LexOut}
    (hsp : isSpace c = false) (ho : lexOne (c :: cs) = some o) :
    lexL (c :: cs) off =
      mkToken o (c :: cs) off :: lexL ((c :: cs).drop o.n) (off + utf8Len ((c :: cs).take o.n)) := by
  obtain ⟨m, hm⟩ : ∃ m, o.n = m + 1 := ⟨o.n - 1, by have := (lexOne_ok ho).pos; omega⟩
  simp only [lexL, lexGo, hsp, ho, hm, Nat.add_sub_cancel, List.drop_succ_cons, List.take_succ_cons,
    utf8Len_cons, Bool.false_eq_true, if_false]
  rw [lexGo_skip cs _ m, Nat.add_assoc, lexGo_eq_lexL]
  rfl

theorem lexL_induct {P : List Char → Prop} (hnil : P [])
    (hsp : ∀ c cs, isSpace c = true → P cs → P (c :: cs))
    (htok : ∀ c cs o, isSpace c = false → lexOne (c :: cs) = some o →
      P ((c :: cs).drop o.n) → P (c :: cs)) : ∀ s, P s
  | [] => hnil
  | c :: cs =>
    if h : isSpace c = true then hsp c cs h (lexL_induct hnil hsp htok cs)
    else
      match ho : lexOne (c :: cs) with
      | some o =>
        htok c cs o (by simpa using h) ho (lexL_induct hnil hsp htok ((c :: cs).drop o.n))
      | none => by
        obtain ⟨o, h2⟩ := lexOne_total c cs
        rw [ho] at h2; cases h2
termination_by s => s.length
decreasing_by
  · simp
  · have := (lexOne_ok ho).pos
    simp only [List.length_drop, List.length_cons]
    omega

theorem split_prefix {a b a' b' : List Char} (h : a ++ b = a' ++ b') (hl : utf8Len a ≤ utf8Len a') :
    ∃ m, a' = a ++ m ∧ b = m ++ b' := by
  induction a generalizing a' with
  | nil => exact ⟨a', by simp, by simpa using h⟩
  | cons c cs ih =>
    cases a' with
    | nil =>
      have := utf8Size_pos c
      simp at hl; omega
    | cons c' cs' =>
      simp only [List.cons_append, List.cons.injEq] at h
      obtain ⟨hc, ht⟩ := h
      subst hc
      simp only [utf8Len_cons] at hl
      obtain ⟨m, h1, h2⟩ := ih ht (by omega)
      exact ⟨m, by simp [h1], h2⟩

theorem mkToken_lo (o : LexOut) (s : List Char) (off : Nat) : (mkToken o s off).range.lo = off := rfl
theorem mkToken_hi (o : LexOut) (s : List Char) (off : Nat) :
    (mkToken o s off).range.hi = off + utf8Len (s.take o.n) := rfl

theorem lexL_cut : ∀ (s : List Char) (off : Nat) (T1 : List Token) (t : Token) (T2 : List Token),
    lexL s off = T1 ++ t :: T2 →
    ∃ a w b, s = a ++ (w ++ b) ∧ t.range.lo = off + utf8Len a ∧
      t.range.hi = t.range.lo + utf8Len w ∧ 0 < utf8Len w ∧
      lexL (w ++ b) t.range.lo = t :: T2 ∧ lexL b t.range.hi = T2 := by
  intro s
  induction s using lexL_induct with
  | hnil => intro off T1 t T2 h; cases T1 <;> cases h
  | hsp c cs hc ih =>
    intro off T1 t T2 h
    rw [lexL_space hc] at h
    obtain ⟨a, w, b, h1, h2, h3⟩ := ih _ T1 t T2 h
    exact ⟨c :: a, w, b, by rw [h1]; rfl, by rw [h2, utf8Len_cons, Nat.add_assoc], h3⟩
  | htok c cs o hc ho ih =>
    intro off T1 t T2 h
    have hl := lexL_token (off := off) hc ho
    rw [hl] at h
    cases T1 with
    | nil =>
      obtain ⟨rfl, h2⟩ := List.cons.inj h
      have hok := lexOne_ok ho
      exact ⟨[], (c :: cs).take o.n, (c :: cs).drop o.n, (List.take_append_drop _ _).symm, rfl, rfl,
        utf8Len_take_pos hok.pos hok.le, by rw [List.take_append_drop, ← h2]; exact hl, h2⟩
    | cons x T1' =>
      obtain ⟨a, w, b, h1, h2, h3⟩ := ih _ T1' t T2 (List.cons.inj h).2
      exact ⟨(c :: cs).take o.n ++ a, w, b, by rw [List.append_assoc, ← h1, List.take_append_drop],
        by rw [h2, utf8Len_append, Nat.add_assoc], h3⟩

theorem cut_at_start : ∀ (s : List Char) (off : Nat) (T1 : List Token) (t : Token) (T2 : List Token),
    lexL s off = T1 ++ t :: T2 →
    ∃ a b, s = a ++ b ∧ off + utf8Len a = t.range.lo ∧ lexL b t.range.lo = t :: T2 := by
  intro s off T1 t T2 h
  obtain ⟨a, w, b, h1, h2, -, -, h3, -⟩ := lexL_cut s off T1 t T2 h
  exact ⟨a, w ++ b, h1, h2.symm, h3⟩

theorem cut_at_end : ∀ (s : List Char) (off : Nat) (T1 : List Token) (t : Token) (T2 : List Token),
    lexL s off = T1 ++ t :: T2 →
    ∃ a b, s = a ++ b ∧ off + utf8Len a = t.range.hi ∧ lexL b t.range.hi = T2 := by
  intro s off T1 t T2 h
  obtain ⟨a, w, b, h1, h2, h3, -, -, h4⟩ := lexL_cut s off T1 t T2 h
  exact ⟨a ++ w, b, by rw [h1, List.append_assoc], by rw [utf8Len_append]; omega, h4⟩

theorem lexL_lo (s : List Char) (off : Nat) : ∀ t ∈ lexL s off, off ≤ t.range.lo := by
  intro t ht
  obtain ⟨T1, T2, e⟩ := List.append_of_mem ht
  obtain ⟨a, w, b, -, h, -⟩ := lexL_cut s off T1 t T2 e
  omega

theorem lexL_bounds : ∀ (s : List Char) (off : Nat), ∀ t ∈ lexL s off,
    t.range.lo < t.range.hi ∧ t.range.hi ≤ off + utf8Len s := by
  intro s off t ht
  obtain ⟨T1, T2, e⟩ := List.append_of_mem ht
  obtain ⟨a, w, b, hs, h1, h2, hw, -⟩ := lexL_cut s off T1 t T2 e
  rw [hs, utf8Len_append, utf8Len_append]
  omega

theorem lexL_sorted : ∀ (s : List Char) (off : Nat),
    (lexL s off).Pairwise (fun a b => a.range.hi ≤ b.range.lo) := by
  intro s
  induction s using lexL_induct with
  | hnil => intro off; exact .nil
  | hsp c cs hc ih => intro off; rw [lexL_space hc]; exact ih _
  | htok c cs o hc ho ih =>
    intro off
    rw [lexL_token hc ho]
    exact .cons (lexL_lo _ _) (ih _)

theorem lexL_lo_sorted (s : List Char) (off : Nat) :
    (lexL s off).Pairwise (fun a b => a.range.lo < b.range.lo) := by
  refine List.Pairwise.imp_of_mem ?_ (lexL_sorted s off)
  intro a b ha _ hab
  have := (lexL_bounds s off a ha).1
  omega

theorem pre_skip : ∀ (u v : List Char) (off : Nat) (T : List Token),
    lexL (u ++ v) off = T → (∀ h ∈ T.head?, off + utf8Len u ≤ h.range.lo) →
    lexL v (off + utf8Len u) = T := by
  intro u
  induction u with
  | nil => intro v off T hl _; exact hl
  | cons c u' ih =>
    intro v off T hl hle
    rw [utf8Len_cons] at hle ⊢
    by_cases hc : isSpace c = true
    · rw [List.cons_append, lexL_space hc] at hl
      rw [← Nat.add_assoc]
      exact ih v _ T hl (fun h hh => by have := hle h hh; omega)
    · obtain ⟨o, ho⟩ := lexOne_total c (u' ++ v)
      rw [List.cons_append, lexL_token (by simpa using hc) ho] at hl
      subst hl
      have := hle _ rfl
      have := utf8Size_pos c
      rw [mkToken_lo] at *
      omega

theorem pre_first : ∀ (u v : List Char) (off : Nat) (h : Token) (T : List Token),
    lexL (u ++ v) off = h :: T → off + utf8Len u ≤ h.range.lo →
    lexL v (off + utf8Len u) = h :: T :=
  fun u v off h T hl hle => pre_skip u v off _ hl (by intro x hx; cases hx; exact hle)

theorem pre_empty : ∀ (u v : List Char) (off : Nat),
    lexL (u ++ v) off = [] → lexL v (off + utf8Len u) = [] :=
  fun u v off hl => pre_skip u v off _ hl (by simp)

theorem mapM_eq_some_iff {α β} {f : α → Option β} : ∀ {l : List α} {r : List β},
    l.mapM f = some r ↔ l.map f = r.map some
  | [], r => by cases r <;> simp
  | x :: xs, [] => by cases hx : f x <;> cases hxs : xs.mapM f <;> simp [List.mapM_cons, hx, hxs]
  | x :: xs, y :: ys => by
    simp only [List.mapM_cons, List.map_cons, List.cons.injEq, ← mapM_eq_some_iff (l := xs) (r := ys)]
    cases f x <;> cases xs.mapM f <;> simp

theorem shiftRange_ok {p q : Nat} {d : Int} (h : (q : Int) = p + d) (a b : Nat) :
    shiftRange? ⟨p + a, p + b⟩ d = some ⟨q + a, q + b⟩ := by
  have hi : ∀ k, shiftInt (p + k) d = some (q + k) := by
    intro k
    simp only [shiftInt]
    rw [if_neg (by omega)]
    congr 1; omega
  simp only [shiftRange?, hi]

theorem shiftToken_eof {p q : Nat} {d : Int} (h : (q : Int) = p + d) :
    shiftToken? (eofToken p) d = some (eofToken q) := by
  have hr : shiftRange? ⟨p, p⟩ d = some ⟨q, q⟩ := shiftRange_ok h 0 0
  simp only [shiftToken?, eofToken, hr]
  rfl

theorem shiftToken_mkToken (o : LexOut) (s : List Char) {p q : Nat} {d : Int} (h : (q : Int) = p + d) :
    shiftToken? (mkToken o s p) d = some (mkToken o s q) := by
  have he : shiftErrs? (o.errs.map (·.shift p)) d = some (o.errs.map (·.shift q)) := by
    rw [shiftErrs?, mapM_eq_some_iff, List.map_map, List.map_map]
    refine List.map_congr_left fun e _ => ?_
    simp only [Function.comp, SplError.shift, Range.shift, Nat.add_comm _ p, Nat.add_comm _ q,
      shiftRange_ok h, Option.map]
  have hr : shiftRange? ⟨p, p + utf8Len (s.take o.n)⟩ d = some ⟨q, q + utf8Len (s.take o.n)⟩ :=
    shiftRange_ok h 0 _
  simp only [shiftToken?, mkToken, hr, he]

theorem lexL_shift : ∀ (b : List Char) (p q : Nat) (d : Int), (q : Int) = p + d →
    (lexL b p).mapM (fun t => shiftToken? t d) = some (lexL b q) := by
  intro b
  induction b using lexL_induct with
  | hnil => intro p q d _; rfl
  | hsp c cs hc ih =>
    intro p q d h
    rw [lexL_space hc, lexL_space hc]
    exact ih _ _ d (by omega)
  | htok c cs o hc ho ih =>
    intro p q d h
    have h2 := ih (p + utf8Len ((c :: cs).take o.n)) (q + utf8Len ((c :: cs).take o.n)) d (by omega)
    rw [lexL_token hc ho, lexL_token hc ho, List.mapM_cons, shiftToken_mkToken o _ h, h2]
    rfl

/-- Look-ahead locality of `Token::lex` (`C07.lex_local`): behind the characters `pre` of the recognised token the
    text may be replaced by any that starts with the same character or ends there as well, and where the kind has
    look-ahead 0 by any text at all. -/
def LexLocal : Prop := ∀ (pre rest rest' : List Char) (o : LexOut),
  lexOne (pre ++ rest) = some o → o.n = pre.length →
  (Gen.lookAhead o.ty.kind = 0 ∨ rest.head? = rest'.head?) →
  lexOne (pre ++ rest') = some o

theorem lookAhead_le_one (k : Kind) : Gen.lookAhead k ≤ 1 := by cases k <;> decide

theorem mkToken_kind (o : LexOut) (s : List Char) (off : Nat) : (mkToken o s off).kind = o.ty.kind := rfl

theorem isAffectedBy_true {t : Token} {cs : Nat} :
    t.isAffectedBy cs = true ↔ cs < t.range.hi + Gen.lookAhead t.kind := by
  simp [Token.isAffectedBy]

theorem isAffectedBy_false {t : Token} {cs : Nat} :
    t.isAffectedBy cs = false ↔ t.range.hi + Gen.lookAhead t.kind ≤ cs := by
  simp [Token.isAffectedBy]

theorem affected_after {s : List Char} {p cs : Nat} (h : cs < p + 1) :
    ∀ t ∈ lexL s p, t.isAffectedBy cs = true := by
  intro t ht
  have h1 := lexL_lo s p t ht
  have h2 := (lexL_bounds s p t ht).1
  rw [isAffectedBy_true]
  omega

theorem lexL_token_local (hloc : LexLocal) {c : Char} {cs : List Char} {off : Nat} {o : LexOut}
    (hc : isSpace c = false) (ho : lexOne (c :: cs) = some o) (r' : List Char)
    (h : Gen.lookAhead o.ty.kind = 0 ∨ ((c :: cs).drop o.n).head? = r'.head?) :
    lexL ((c :: cs).take o.n ++ r') off =
      mkToken o (c :: cs) off :: lexL r' (off + utf8Len ((c :: cs).take o.n)) := by
  have hok := lexOne_ok ho
  have hlen := List.length_take_of_le hok.le
  have ho' := hloc _ _ r' o (by rw [List.take_append_drop]; exact ho) hlen.symm h
  obtain ⟨m, hm⟩ : ∃ m, o.n = m + 1 := ⟨o.n - 1, by have := hok.pos; omega⟩
  have htake : (c :: cs).take o.n = c :: cs.take m := by rw [hm]; rfl
  rw [htake, List.cons_append] at ho'
  rw [htake, List.cons_append, lexL_token hc ho', ← List.cons_append, ← htake]
  simp only [mkToken, List.take_left' hlen, List.drop_left' hlen]

/-- Cut the tokens of `a ++ b` where `is_affected_by` first holds for the end of `a`: the unaffected head `H` consumes
    `a1`, and every text `a ++ b'` has the same head, with the rest lexed from `a1`'s end in both. -/
theorem head_stable (hloc : LexLocal) : ∀ (s : List Char) (off : Nat) (a b b' : List Char), s = a ++ b →
    ∃ (H : List Token) (a1 g : List Char), a = a1 ++ g ∧
      lexL (a ++ b) off = H ++ lexL (g ++ b) (off + utf8Len a1) ∧
      lexL (a ++ b') off = H ++ lexL (g ++ b') (off + utf8Len a1) ∧
      (∀ t ∈ H, t.isAffectedBy (off + utf8Len a) = false) ∧
      (∀ t ∈ lexL (g ++ b) (off + utf8Len a1), t.isAffectedBy (off + utf8Len a) = true) ∧
      (H = [] → a1 = []) ∧ (∀ t, H.getLast? = some t → t.range.hi = off + utf8Len a1) := by
  intro s
  -- in every step the offsets of the induction hypothesis are those of the goal, once
  -- `utf8Len` is distributed and the sums are associated to the left
  induction s using lexL_induct with
  | hnil =>
    intro off a b b' hs
    obtain ⟨rfl, rfl⟩ := List.append_eq_nil_iff.mp hs.symm
    exact ⟨[], [], [], rfl, rfl, rfl, by simp, by simp, fun _ => rfl, by simp⟩
  | hsp c cs hc ih =>
    intro off a b b' hs
    cases a with
    | nil => exact ⟨[], [], [], rfl, rfl, rfl, by simp, affected_after (Nat.lt_succ_self _), fun _ => rfl, by simp⟩
    | cons c' a' =>
      obtain ⟨rfl, hcs⟩ := List.cons.inj hs
      obtain ⟨H, a1, g, h1, h2, h3, h4, h5, h6, h7⟩ := ih (off + c.utf8Size) a' b b' hcs
      cases H with
      | nil =>
        -- nothing is kept: lexing resumes in front of the whitespace
        cases h6 rfl
        refine ⟨[], [], c :: a', rfl, rfl, rfl, by simp, fun t ht => ?_, fun _ => rfl, by simp⟩
        rw [utf8Len_nil, Nat.add_zero, List.cons_append, lexL_space hc, h2] at ht
        simp only [utf8Len_cons, ← Nat.add_assoc]
        exact h5 t ht
      | cons x xs =>
        refine ⟨x :: xs, c :: a1, g, by rw [h1]; rfl, ?_⟩
        simp only [List.cons_append, lexL_space hc, utf8Len_cons, ← Nat.add_assoc]
        exact ⟨h2, h3, h4, h5, by simp, h7⟩
  | htok c cs o hc ho ih =>
    intro off a b b' hs
    have hl := lexL_token (off := off) hc ho
    by_cases haff : (mkToken o (c :: cs) off).isAffectedBy (off + utf8Len a) = true
    · -- the first token is affected: nothing is kept
      refine ⟨[], [], a, rfl, rfl, rfl, by simp, ?_, fun _ => rfl, by simp⟩
      have hla := lookAhead_le_one (mkToken o (c :: cs) off).kind
      rw [utf8Len_nil, Nat.add_zero, ← hs, hl]
      refine List.forall_mem_cons.mpr ⟨haff, affected_after ?_⟩
      rw [isAffectedBy_true, mkToken_hi] at haff
      omega
    · -- the first token is unaffected: it lies inside `a`, with its look-ahead
      rw [Bool.not_eq_true, isAffectedBy_false, mkToken_hi, mkToken_kind] at haff
      obtain ⟨m, rfl, hm2⟩ :=
        split_prefix ((List.take_append_drop o.n (c :: cs)).trans hs) (by omega)
      rw [utf8Len_append] at haff
      have hnew := lexL_token_local hloc (off := off) hc ho (m ++ b') <| by
        rw [hm2]
        cases m with
        | nil => left; rw [utf8Len_nil] at haff; omega
        | cons x m' => right; rfl
      obtain ⟨H, a1, g, rfl, h2, h3, h4, h5, h6, h7⟩ :=
        ih (off + utf8Len ((c :: cs).take o.n)) m b b' hm2
      refine ⟨mkToken o (c :: cs) off :: H, (c :: cs).take o.n ++ a1, g, (List.append_assoc _ _ _).symm, ?_⟩
      rw [← hs, hl, hm2, List.append_assoc _ (a1 ++ g), hnew]
      simp only [utf8Len_append, ← Nat.add_assoc] at haff h2 h3 h4 h5 h7 ⊢
      refine ⟨by rw [h2]; rfl, by rw [h3]; rfl, List.forall_mem_cons.mpr ⟨?_, h4⟩, h5, by simp,
        fun t ht => ?_⟩
      · rw [isAffectedBy_false, mkToken_hi, mkToken_kind]; omega
      · cases H with
        | nil => cases ht; rw [h6 rfl]; rfl
        | cons x xs => exact h7 t ht

theorem filter_append_split {α} {p : α → Bool} {l1 l2 : List α}
    (h1 : ∀ y ∈ l1, p y = false) (h2 : ∀ y ∈ l2, p y = true) :
    (l1 ++ l2).filter (fun y => !p y) = l1 ∧ (l1 ++ l2).filter p = l2 := by
  rw [List.filter_append, List.filter_append, List.filter_eq_self.mpr (by simpa using h1),
    List.filter_eq_nil_iff.mpr (by simpa using h2), List.filter_eq_nil_iff.mpr (by simpa using h1),
    List.filter_eq_self.mpr h2]
  exact ⟨List.append_nil _, List.nil_append _⟩

theorem sorted_split {α} (R : α → α → Prop) (p : α → Bool)
    (hmono : ∀ a b, R a b → p a = true → p b = true) :
    ∀ (l : List α), l.Pairwise R →
      ∃ l1 l2, l = l1 ++ l2 ∧ (∀ y ∈ l1, p y = false) ∧ (∀ y ∈ l2, p y = true)
  | [], _ => ⟨[], [], rfl, by simp, by simp⟩
  | a :: as, h => by
    rw [List.pairwise_cons] at h
    cases hp : p a with
    | true =>
      exact ⟨[], a :: as, rfl, by simp,
        List.forall_mem_cons.mpr ⟨hp, fun y hy => hmono a y (h.1 y hy) hp⟩⟩
    | false =>
      obtain ⟨l1, l2, e, h1, h2⟩ := sorted_split R p hmono as h.2
      exact ⟨a :: l1, l2, by rw [e]; rfl, List.forall_mem_cons.mpr ⟨hp, h1⟩, h2⟩

def newToksOf (L R : List Token) : List Token := L.takeWhile (fun t => !R.contains t)

def tailOf (L R : List Token) : List Token :=
  match (newToksOf L R).getLast? with
  | some l => R.dropWhile (fun t => t.range.lo < l.range.hi)
  | none => R

theorem tailOf_suffix (L R : List Token) : tailOf L R <:+ R := by
  unfold tailOf
  split
  · exact List.dropWhile_suffix _
  · exact List.suffix_refl R

/-- With `L` the lexing of `w1 ++ b` and `R` the lexing of its suffix `b` at its true position:
    the tokens of `L` up to the first one that also occurs in `R`, followed by `R` from the first
    token not starting before the last of these, are exactly `L`. -/
theorem stitch (w1 b : List Char) (r : Nat) :
    newToksOf (lexL (w1 ++ b) r) (lexL b (r + utf8Len w1)) ++
      tailOf (lexL (w1 ++ b) r) (lexL b (r + utf8Len w1)) = lexL (w1 ++ b) r := by
  generalize hL : lexL (w1 ++ b) r = L
  generalize hR : lexL b (r + utf8Len w1) = R
  -- `L` is its new tokens `L1` followed by `Lr`, which is empty or starts with a token of `R`
  obtain ⟨L1, Lr, hL1, eL, hLr⟩ :
      ∃ L1 Lr, newToksOf L R = L1 ∧ L = L1 ++ Lr ∧ ∀ x ∈ Lr.head?, x ∈ R := by
    refine ⟨_, L.dropWhile (fun t => !R.contains t), rfl, List.takeWhile_append_dropWhile.symm, ?_⟩
    intro x hx
    have := List.head?_dropWhile_not (fun t => !R.contains t) L
    rw [hx] at this
    simpa using this
  suffices tailOf L R = Lr by rw [this, hL1, ← eL]
  -- if `Lr` is lexed from position `e` of the text, then `R` is `Lr` after tokens starting before `e`
  have main : ∀ e a4 v4, w1 ++ b = a4 ++ v4 → r + utf8Len a4 = e → lexL v4 e = Lr →
      ∃ R1, R = R1 ++ Lr ∧ ∀ y ∈ R1, y.range.lo < e := by
    intro e a4 v4 s4 p4 l4
    -- a token `y` of `R` from `e` on, not behind the head of `Lr`, is that head
    have key : ∀ Ra y Rb, R = Ra ++ y :: Rb → e ≤ y.range.lo →
        (∀ x ∈ Lr.head?, y.range.lo ≤ x.range.lo) → y :: Rb = Lr := by
      intro Ra y Rb eR hey hyx
      obtain ⟨u3, v3, s3, p3, l3⟩ := cut_at_start b (r + utf8Len w1) Ra y Rb (hR.trans eR)
      obtain ⟨m, hm1, hm2⟩ := split_prefix (a' := w1 ++ u3)
        (s4.symm.trans (by rw [s3, List.append_assoc])) (by rw [utf8Len_append]; omega)
      have hpos : e + utf8Len m = y.range.lo := by
        have := congrArg utf8Len hm1
        rw [utf8Len_append, utf8Len_append] at this
        omega
      have := pre_skip m v3 e Lr (by rw [← hm2]; exact l4) (by rw [hpos]; exact hyx)
      rw [hpos, l3] at this
      exact this
    cases Lr with
    | nil =>
      refine ⟨R, (List.append_nil R).symm, fun y hy => Nat.lt_of_not_le fun hey => ?_⟩
      obtain ⟨Ra, Rb, eR⟩ := List.append_of_mem hy
      cases key Ra y Rb eR hey (by simp)
    | cons x L2 =>
      obtain ⟨R1, R2, eR⟩ := List.append_of_mem (hLr x rfl)
      have hex : e ≤ x.range.lo := lexL_lo v4 e x (by rw [l4]; exact .head _)
      have hx := key R1 x R2 eR hex (fun _ h => by cases h; exact Nat.le_refl _)
      refine ⟨R1, by rw [eR, hx], fun y hy => Nat.lt_of_not_le fun hey => ?_⟩
      obtain ⟨Ra, Rb, eR1⟩ := List.append_of_mem hy
      have hyx : y.range.lo < x.range.lo := by
        have := lexL_lo_sorted b (r + utf8Len w1)
        rw [hR, eR, List.pairwise_append] at this
        exact this.2.2 y hy x (.head _)
      cases key Ra y (Rb ++ x :: R2) (by rw [eR, eR1, List.append_assoc]; rfl) hey
        (fun _ h => by cases h; omega)
      omega
  unfold tailOf
  rw [hL1]
  cases hlast : L1.getLast? with
  | none =>
    cases List.getLast?_eq_none_iff.mp hlast
    obtain ⟨R1, eR, hR1⟩ := main r [] (w1 ++ b) rfl rfl (hL.trans eL)
    -- no token of `R` starts before `r`
    cases R1 with
    | nil => exact eR
    | cons y _ =>
      have := hR1 y (.head _)
      have := lexL_lo b _ y (by rw [hR, eR]; exact .head _)
      omega
  | some last =>
    obtain ⟨L1', rfl⟩ := List.getLast?_eq_some_iff.mp hlast
    obtain ⟨a4, v4, s4, p4, l4⟩ :=
      cut_at_end (w1 ++ b) r L1' last Lr (by rw [hL, eL, List.append_assoc]; rfl)
    obtain ⟨R1, eR, hR1⟩ := main _ a4 v4 s4 p4 l4
    dsimp only
    rw [eR, List.dropWhile_append_of_pos (fun y hy => decide_eq_true (hR1 y hy))]
    cases Lr with
    | nil => rfl
    | cons x L2 =>
      have := lexL_lo v4 _ x (by rw [l4]; exact .head _)
      exact List.dropWhile_cons_of_neg (by simpa using this)

theorem splitLast_snoc {α} : ∀ (l : List α) (x : α), splitLast (l ++ [x]) = some (l, x)
  | [], x => rfl
  | [a], x => rfl
  | a :: b :: bs, x => by
    have ih := splitLast_snoc (b :: bs) x
    simp only [List.cons_append] at ih ⊢
    simp only [splitLast, ih, Option.map]

theorem dropBytes_append : ∀ (a b : List Char), dropBytes (utf8Len a) (a ++ b) = some b
  | [], b => by simp [dropBytes]
  | c :: cs, b => by
    have hpos := utf8Size_pos c
    obtain ⟨n, hn⟩ : ∃ n, utf8Len (c :: cs) = n + 1 := ⟨utf8Len (c :: cs) - 1, by simp only [utf8Len_cons]; omega⟩
    rw [hn]
    simp only [List.cons_append, dropBytes]
    have hle : c.utf8Size ≤ n + 1 := by simp only [utf8Len_cons] at hn; omega
    simp only [hle, if_true]
    have : n + 1 - c.utf8Size = utf8Len cs := by simp only [utf8Len_cons] at hn; omega
    rw [this]
    exact dropBytes_append cs b

/-- The edit's length difference, as `lexer::update` computes it. -/
def editDelta (pre mid ins : List Char) : Int :=
  (utf8Len ins : Int) - ((utf8Len pre + utf8Len mid - utf8Len pre : Nat) : Int)

/-- **`lexer::update` equals `lexer::lex` of the new text** (given look-ahead locality):
    for every old text `pre ++ mid ++ post`, every replacement `ins` of `mid`, updating the
    tokens of the old text yields exactly the tokens of `pre ++ ins ++ post`.  The old tokens are
    the kept head `H`, the dropped `X1` and the reusable `X2`; the new ones are `H`, the re-lexed
    `newToks` and `tail`, a suffix of the shifted `X2`. -/
theorem lexUpdate_spec (hloc : LexLocal) (pre mid ins post : List Char) :
    ∃ (H X1 X2 R newToks tail : List Token),
      lexL (pre ++ mid ++ post) 0 = H ++ X1 ++ X2 ∧
      lexL (pre ++ ins ++ post) 0 = H ++ newToks ++ tail ∧
      tail <:+ R ∧
      X2.mapM (fun t => shiftToken? t (editDelta pre mid ins)) = some R ∧
      lexUpdate (pre ++ ins ++ post)
        (lexL (pre ++ mid ++ post) 0 ++ [eofToken (utf8Len (pre ++ mid ++ post))])
        (utf8Len pre) (utf8Len pre + utf8Len mid) (utf8Len ins) =
      .ok (lexL (pre ++ ins ++ post) 0 ++ [eofToken (utf8Len (pre ++ ins ++ post))],
           ⟨H.length, (lexL (pre ++ mid ++ post) 0).length - tail.length, newToks.length⟩) := by
  -- the unaffected head `H`; behind it the old text gives `X`, the new text `L`
  obtain ⟨H, a1, g, ha, hO, hN, hHun, hXaff, hH0, hHlast⟩ :=
    head_stable hloc (pre ++ (mid ++ post)) 0 pre (mid ++ post) (ins ++ post) rfl
  simp only [Nat.zero_add, ← List.append_assoc pre] at hO hN hHun hXaff hHlast
  generalize hX : lexL (g ++ (mid ++ post)) (utf8Len a1) = X at hO hXaff
  generalize hL : lexL (g ++ (ins ++ post)) (utf8Len a1) = L at hN
  -- of `X`, the tokens `X2` that start behind the change are kept
  obtain ⟨X1, X2, eX, hX1, hX2⟩ :=
    sorted_split (fun a b : Token => a.range.lo < b.range.lo)
      (fun t => !decide (t.range.lo < utf8Len pre + utf8Len mid))
      (by intro a b hab ha; simp only [Bool.not_eq_true', decide_eq_false_iff_not, Nat.not_lt] at ha ⊢; omega)
      X (hX ▸ lexL_lo_sorted _ _)
  -- shifted, they are the lexing of a suffix of `post` at its new position
  obtain ⟨m', bb, hpost, hRe⟩ : ∃ m' bb, post = m' ++ bb ∧
      X2.mapM (fun t => shiftToken? t (editDelta pre mid ins)) =
        some (lexL bb (utf8Len (pre ++ ins ++ m'))) := by
    cases X2 with
    | nil => exact ⟨post, [], (List.append_nil _).symm, rfl⟩
    | cons x X2' =>
      have hxlo : utf8Len pre + utf8Len mid ≤ x.range.lo := by simpa using hX2 x (.head _)
      obtain ⟨a, b, s1, p1, l1⟩ := cut_at_start (pre ++ mid ++ post) 0 (H ++ X1) x X2'
        (by rw [hO, eX, List.append_assoc])
      obtain ⟨m', hm1, hm2⟩ := split_prefix (a := pre ++ mid) s1 (by rw [utf8Len_append]; omega)
      refine ⟨m', b, hm2, ?_⟩
      rw [← l1]
      apply lexL_shift
      have := congrArg utf8Len hm1
      simp only [utf8Len_append, editDelta] at this ⊢
      omega
  have hst := stitch (g ++ ins ++ m') bb (utf8Len a1)
  rw [show g ++ ins ++ m' ++ bb = g ++ (ins ++ post) by rw [hpost]; simp only [List.append_assoc],
    hL, show utf8Len a1 + utf8Len (g ++ ins ++ m') = utf8Len (pre ++ ins ++ m') by
      rw [ha]; simp only [utf8Len_append]; omega] at hst
  generalize lexL bb (utf8Len (pre ++ ins ++ m')) = R at hRe hst
  rw [← hst, ← List.append_assoc] at hN
  refine ⟨H, X1, X2, R, newToksOf L R, tailOf L R, by rw [hO, eX, List.append_assoc], hN,
    tailOf_suffix L R, hRe, ?_⟩
  -- the steps of the algorithm
  have hty : ((eofToken (utf8Len (pre ++ mid ++ post))).ty != TokenType.Eof) = false := rfl
  have heof := shiftToken_eof (p := utf8Len (pre ++ mid ++ post)) (q := utf8Len (pre ++ ins ++ post))
    (d := editDelta pre mid ins) (by simp only [utf8Len_append, editDelta]; omega)
  have hf1 := filter_append_split hHun hXaff
  have hf2 := (filter_append_split hX1 hX2).2
  rw [← eX] at hf2
  have hdrop : dropBytes (utf8Len a1) (pre ++ ins ++ post) = some (g ++ (ins ++ post)) := by
    rw [ha, List.append_assoc, List.append_assoc]
    exact dropBytes_append _ _
  rw [editDelta] at heof hRe
  simp only [lexUpdate, splitLast_snoc, hty, heof, hO, hf1, hf2, hRe, Bool.false_eq_true, if_false]
  cases hl : H.getLast? with
  | none =>
    rw [hH0 (List.getLast?_eq_none_iff.mp hl), utf8Len_nil] at hdrop hL
    simp only [hdrop, lexGo_eq_lexL, hL, hN]
    rfl
  | some t =>
    rw [← hHlast t hl] at hdrop hL
    simp only [hdrop, lexGo_eq_lexL, hL, hN]
    rfl

/-- **The change window is truthful**: the tokens before `delLo` are the old ones untouched; the
    old tokens from `delHi` on, shifted by the length difference of the edit, are exactly the new
    tokens after the `insLen` inserted ones; and the window is well-formed. -/
theorem lexUpdate_window (hloc : LexLocal) (pre mid ins post : List Char) :
    ∃ ch, lexUpdate (pre ++ ins ++ post)
        (lexL (pre ++ mid ++ post) 0 ++ [eofToken (utf8Len (pre ++ mid ++ post))])
        (utf8Len pre) (utf8Len pre + utf8Len mid) (utf8Len ins) =
      .ok (lexL (pre ++ ins ++ post) 0 ++ [eofToken (utf8Len (pre ++ ins ++ post))], ch) ∧
      ch.delLo ≤ ch.delHi ∧ ch.delHi ≤ (lexL (pre ++ mid ++ post) 0).length ∧
      (lexL (pre ++ ins ++ post) 0 ++ [eofToken (utf8Len (pre ++ ins ++ post))]).take ch.delLo =
        (lexL (pre ++ mid ++ post) 0 ++ [eofToken (utf8Len (pre ++ mid ++ post))]).take ch.delLo ∧
      ((lexL (pre ++ mid ++ post) 0 ++ [eofToken (utf8Len (pre ++ mid ++ post))]).drop ch.delHi).mapM
          (fun t => shiftToken? t (editDelta pre mid ins)) =
        some ((lexL (pre ++ ins ++ post) 0 ++ [eofToken (utf8Len (pre ++ ins ++ post))]).drop
          (ch.delLo + ch.insLen)) := by
  obtain ⟨H, X1, X2, R, nt, tl, hO, hN, hsuf, hR, h⟩ := lexUpdate_spec hloc pre mid ins post
  have hR' := mapM_eq_some_iff.mp hR
  have hlenR : X2.length = R.length := by simpa using congrArg List.length hR'
  have hl := hsuf.length_le
  refine ⟨_, h, ?_, Nat.sub_le _ _, ?_, ?_⟩
  · simp only [hO, List.length_append]
    omega
  · rw [hO, hN]
    simp only [List.append_assoc]
    rw [List.take_left' rfl, List.take_left' rfl]
  · -- the old tokens from `delHi` on are the last `|tl|` of `X2`, then `Eof`; shifted, `tl` and `Eof`
    have hdrop : (X2.drop (X2.length - tl.length)).mapM
        (fun t => shiftToken? t (editDelta pre mid ins)) = some tl := by
      rw [mapM_eq_some_iff, List.map_drop, hR', ← List.map_drop, hlenR,
        ← List.suffix_iff_eq_drop.mp hsuf]
    have heof : shiftToken? (eofToken (utf8Len (pre ++ mid ++ post))) (editDelta pre mid ins) =
        some (eofToken (utf8Len (pre ++ ins ++ post))) :=
      shiftToken_eof (by simp only [utf8Len_append, editDelta]; omega)
    show List.mapM _ (List.drop ((lexL (pre ++ mid ++ post) 0).length - tl.length) _) =
      some (List.drop (H.length + nt.length) _)
    rw [hO, hN, List.append_assoc (H ++ nt), List.drop_left' List.length_append,
      show (H ++ X1 ++ X2).length - tl.length = (H ++ X1).length + (X2.length - tl.length) by
        simp only [List.length_append]; omega,
      List.append_assoc (H ++ X1), List.drop_length_add_append,
      List.drop_append_of_le_length (by omega), List.mapM_append, hdrop]
    simp only [List.mapM_cons, List.mapM_nil, heof]
    rfl

end Spl
