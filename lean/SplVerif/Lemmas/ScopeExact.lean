/-
  Lemmas for C16: for a well-typed program the symbol tables hold exactly the names the program declares —
  per procedure its parameters and local variables, in order; globally the predefined and the declared
  procedures and types.  (From the simulation of `Lemmas/TypingSound` between the typing specification's
  environments and the implementation's tables.)
-/
import SplVerif.Lemmas.TypingSound
import SplVerif.Model.Features

namespace Spl.ScopeExact
open Spl Spl.Typing Spl.TypingSound Spl.Feat

def paramName (p : Ref ParamDecl) : Option (List Char) :=
  match p.val with
  | .valid _ _ (some n) _ _ => some n.value
  | _ => none

def varName (v : Ref VarDecl) : Option (List Char) :=
  match v.val with
  | .valid _ (some n) _ _ => some n.value
  | _ => none

def procName : GEntry → Option (List Char)
  | .proc s => some s.name
  | .type _ _ => none

def typeName : GEntry → Option (List Char)
  | .type n _ => some n
  | .proc _ => none

def declProcName (d : Ref GlobalDecl) : Option (List Char) :=
  match d.val with
  | .proc pd => pd.name.map (·.value)
  | _ => none

def declTypeName (d : Ref GlobalDecl) : Option (List Char) :=
  match d.val with
  | .type td => td.name.map (·.value)
  | _ => none

theorem localRel_names {vs : List VarInfo} {l : LocalTable} (h : LocalRel vs l) : l.map (·.1) = vs.map (·.name) :=
  (((localRel_iff vs l).mp h).map_eq fun _ _ r => r.1.symm).symm

theorem corr_procs {g : GEnv} {t : GlobalTable} (h : Corr g t) :
    (searchProcedures t).map (·.label) = g.filterMap procName ∧ (searchTypes t).map (·.label) = g.filterMap typeName := by
  have hp := (corr_iff g t).mp h
  rw [searchProcedures, searchTypes, List.map_filterMap, List.map_filterMap]
  constructor
  · refine (hp.filterMap_eq fun e kv r => ?_).symm
    match e, kv, r with
    | .type .., (_, .type _), _ => rfl
    | .proc _, (_, .procedure _), r => exact congrArg some r.1.symm
  · refine (hp.filterMap_eq fun e kv r => ?_).symm
    match e, kv, r with
    | .type .., (_, .type _), r => exact congrArg some r.1.symm
    | .proc _, (_, .procedure _), _ => rfl

theorem foldl_names {α} {step : Option (List VarInfo) → α → Option (List VarInfo)} {nm : α → Option (List Char)}
    (hn : ∀ a, step none a = none)
    (hs : ∀ {acc a r}, step (some acc) a = some r → ∃ v, r = acc ++ [v] ∧ nm a = some v.name) :
    ∀ (as : List α) (acc r : List VarInfo), as.foldl step (some acc) = some r →
      r.map (·.name) = acc.map (·.name) ++ as.filterMap nm
  | [], acc, r, h => by
    cases h
    exact (List.append_nil _).symm
  | a :: as, acc, r, h => by
    obtain ⟨_, h1, h⟩ := foldl_cons_some hn h
    obtain ⟨v, rfl, hv⟩ := hs h1
    rw [foldl_names hn hs as _ r h, List.map_append, List.append_assoc, List.filterMap_cons, hv]
    rfl

theorem fold_param_names {g : GEnv} {pn : List Char} {ps : List (Ref ParamDecl)} {r : List VarInfo}
    (h : ps.foldl (paramStep g pn) (some []) = some r) : r.map (·.name) = ps.filterMap paramName :=
  foldl_names (fun _ => rfl) (fun h => by obtain ⟨_, ⟨_, _, _⟩, rfl⟩ := paramStep_some h; exact ⟨_, rfl, rfl⟩) ps [] r h

theorem fold_local_names {g : GEnv} {pn : List Char} {prm : List VarInfo} {vs : List (Ref VarDecl)} {r : List VarInfo}
    (h : vs.foldl (localStep g pn prm) (some []) = some r) : r.map (·.name) = vs.filterMap varName :=
  foldl_names (fun _ => rfl) (fun h => by obtain ⟨_, ⟨_, _⟩, rfl⟩ := localStep_some h; exact ⟨_, rfl, rfl⟩) vs [] r h

theorem declare_names : ∀ (ds : List (Ref GlobalDecl)) (g gf : GEnv), declare g ds = some gf →
    gf.filterMap procName = g.filterMap procName ++ ds.filterMap declProcName ∧
    gf.filterMap typeName = g.filterMap typeName ++ ds.filterMap declTypeName ∧
    (∀ k x, g.find k = some x → gf.find k = some x) ∧
    (∀ d ∈ ds, ∀ pd n, d.val = .proc pd → pd.name = some n → ∃ sig, gf.find n.value = some (.proc sig) ∧
      sig.params.map (·.name) = pd.params.filterMap paramName ∧ sig.locals.map (·.name) = pd.vars.filterMap varName)
  | [], g, gf, h => by
    cases h
    exact ⟨(List.append_nil _).symm, (List.append_nil _).symm, fun _ _ h => h, fun _ h => nomatch h⟩
  | ⟨dv, dof⟩ :: ds, g, gf, h => by
    obtain ⟨e, hs, hfree, h⟩ := declare_cons h
    obtain ⟨i1, i2, i3, i4⟩ := declare_names ds _ gf h
    have keep := fun k x (hk : g.find k = some x) => i3 k x (by rw [find_append, hk]; rfl)
    have new : (g ++ [e]).find e.name = some e := by
      rw [find_append, Option.not_isSome_iff_eq_none.mp (Bool.eq_false_iff.mp hfree), beq_self_eq_true]
      rfl
    rw [List.filterMap_append, List.append_assoc] at i1 i2
    cases hs with
    | type hn hte _ _ =>
      refine ⟨i1.trans ?_, i2.trans ?_, keep, fun d hd => ?_⟩
      · rfl
      · simp only [List.filterMap_cons, declTypeName, hn]
        rfl
      · cases hd with
        | head => exact fun _ _ h => nomatch h
        | tail _ hd => exact i4 d hd
    | proc hn hps hls =>
      refine ⟨i1.trans ?_, i2.trans ?_, keep, fun d hd pd n hv hn' => ?_⟩
      · simp only [List.filterMap_cons, declProcName, hn]
        rfl
      · rfl
      · cases hd with
        | tail _ hd => exact i4 d hd pd n hv hn'
        | head =>
          cases hv
          cases hn.symm.trans hn'
          exact ⟨_, i3 _ _ new, fold_param_names hps, fold_local_names hls⟩

/-- **The tables of a well-typed program hold exactly the declared names.** -/
theorem tables_exact (p : Program) (h : wellTyped p = true) :
    ∃ table, build p = .ok (p, table) ∧
      (searchProcedures table).map (·.label) = predefined.filterMap procName ++ p.decls.filterMap declProcName ∧
      (searchTypes table).map (·.label) = predefined.filterMap typeName ++ p.decls.filterMap declTypeName ∧
      ∀ d ∈ p.decls, ∀ pd n, d.val = .proc pd → pd.name = some n →
        ∃ pe, tblLookup table n.value = some (.procedure pe) ∧
          pe.localTable.map (·.1) = pd.params.filterMap paramName ++ pd.vars.filterMap varName := by
  obtain ⟨g, tf, hd, hc, hb, _⟩ := build_corr p h
  obtain ⟨n1, n2, _, n4⟩ := declare_names p.decls predefined g hd
  obtain ⟨c1, c2⟩ := corr_procs hc
  refine ⟨tf, hb, c1.trans n1, c2.trans n2, fun d hdm pd n hv hn => ?_⟩
  obtain ⟨sig, hf, hps, hls⟩ := n4 d hdm pd n hv hn
  obtain ⟨pe, hp, _, hl⟩ := corr_proc hc hf
  have hl := hl.resolve_left (Bool.eq_false_iff.mp (declare_fresh _ _ _ hd d hdm pd n hv hn))
  exact ⟨pe, hp, by rw [localRel_names hl, List.map_append, hps, hls]⟩

end Spl.ScopeExact
