/-
  Where the declarations of a derivation lie in the token array (used by C17 and C15).

  The grammar specification consumes the non-comment tokens in order; every global declaration
  starts with the comment run behind its predecessor (its documentation), its first own token is
  the `type` / `proc` keyword, its last own token is the `;` / `}` that closes it, and the next
  declaration starts directly behind that token: the declarations tile the array.
-/
import SplVerif.Lemmas.ParseConformDecl

namespace Spl.ParseConform
open Spl Spl.Parse Spl.Grammar

/-- `Tiling A p ds es`: from index `p` on, the declarations `ds` (in the implementation's range
    convention) lie one behind the other; `es` lists, for the procedure declarations in order,
    the index of the `proc` keyword and the index of the closing brace. -/
inductive Tiling (A : Array Token) : Nat → List (Ref GlobalDecl) → List (Nat × Nat) → Prop
  | nil (p : Nat) : Tiling A p [] []
  | type (p i k : Nat) (td : TypeDecl) (rest : List (Ref GlobalDecl)) (es : List (Nat × Nat)) :
      Next A p i → (∃ t, A[i]? = some t ∧ t.ty = .Type) → i < k →
      (∃ t, A[k]? = some t ∧ t.kind ≠ .Comment) → td.info.range = ⟨0, k + 1 - p⟩ →
      Tiling A (k + 1) rest es → Tiling A p (⟨.type td, p⟩ :: rest) es
  | proc (p i k : Nat) (pd : ProcDecl) (rest : List (Ref GlobalDecl)) (es : List (Nat × Nat)) :
      Next A p i → (∃ t, A[i]? = some t ∧ t.ty = .Proc) → i < k →
      (∃ t, A[k]? = some t ∧ t.ty = .RCurly) → pd.info.range = ⟨0, k + 1 - p⟩ →
      Tiling A (k + 1) rest es → Tiling A p (⟨.proc pd, p⟩ :: rest) ((i, k) :: es)

variable (ctx : Ctx)

theorem prefix_tiling {ts rest : Toks} {ds : List (Ref GlobalDecl)} (h : DeclsPrefix (G ctx) ts ds rest) :
    ∀ (s : St), At ctx s ts → ∃ es, Tiling ctx.toks s.pos (ds.map relDecl) es := by
  induction h with
  | nil => exact fun _ _ => ⟨[], Tiling.nil _⟩
  | type i k r r4 _ td _ hsp _ ih =>
    intro s hat
    obtain ⟨hN, htok, _, hlead⟩ := hat.head
    obtain ⟨_, hp1, hat1⟩ := typeDecl_conf ctx hsp hat.reref
    have hik : s.pos ≤ i ∧ i < k := hp1
    obtain ⟨es, htl⟩ := ih { s with pos := k + 1 } (hat1.congr ctx rfl (by have := hat.ref; show s.refPos ≤ k + 1; omega))
    have hinfo : td.info = ⟨⟨s.pos, k + 1⟩, []⟩ := by rw [typeDeclSpec_info hsp, mkInfo, hlead]
    refine ⟨es, ?_⟩
    rw [List.map_cons, relDecl_type, hinfo]
    exact Tiling.type s.pos i k _ _ es hN htok hik.2 (hat1.fresh.resolve_left (Nat.succ_ne_zero k))
      (by simp only [relTypeDecl, relInfo, hinfo, Nat.sub_self]) htl
  | proc i j nm ilp tylp r2 ps irp tyrp ilc tylc r5 vs r6 ss k tyk r8 _ _ klp hps krp klc hvs hss kk _ ih =>
    intro s hat
    obtain ⟨hN, htok, _, hlead⟩ := hat.head
    obtain ⟨_, hp1, _, hat1, t, ht, hty⟩ := procDecl_conf ctx hat.reref klp hps krp klc hvs hss kk
    have hik : s.pos ≤ i ∧ i < k := hp1
    obtain ⟨es, htl⟩ := ih { s with pos := k + 1 } (hat1.congr ctx rfl (by have := hat.ref; show s.refPos ≤ k + 1; omega))
    refine ⟨(i, k) :: es, ?_⟩
    rw [List.map_cons, relDecl_proc]
    simp only [mkInfo, hlead]
    exact Tiling.proc s.pos i k _ _ es hN htok hik.2 ⟨t, ht, hty.trans (kind_plain rfl (beq_iff_eq.mp kk))⟩
      (by simp only [relProcDecl, relInfo, Nat.sub_self]) htl

theorem decls_tiling : ∀ (fd : Nat) (ts : Toks) (ds : List (Ref GlobalDecl)) (last : Option Nat),
    decls (G ctx) fd ts = some (ds, last) →
    ∀ (s : St), At ctx s ts → ∃ es, Tiling ctx.toks s.pos (ds.map relDecl) es :=
  fun fd ts ds last hs s hat => let ⟨_, h⟩ := decls_is_prefix (G ctx) fd ts ds last hs; prefix_tiling ctx h s hat

/-- **The declarations of a derived program tile the token sequence** from its first token on. -/
theorem parse_tiling (toks : List Token) (p : Program) (h : Grammar.parse toks = some p) :
    ∃ es, Tiling toks.toArray 0 p.decls es := by
  obtain ⟨ds, last, hd, rfl⟩ := parse_some h
  exact decls_tiling { toks := toks.toArray, change := ⟨0, 0, toks.length⟩ } _ _ ds last hd { pos := 0 }
    ⟨Or.inl rfl, Nat.le_refl _, rfl⟩

theorem tiling_sorted (A : Array Token) (p : Nat) (ds : List (Ref GlobalDecl)) (es : List (Nat × Nat))
    (h : Tiling A p ds es) : (∀ e ∈ es, p ≤ e.1 ∧ e.1 < e.2) ∧ es.Pairwise (fun a b => a.2 < b.1) := by
  induction h with
  | nil p => exact ⟨(by intro e he; cases he), List.Pairwise.nil⟩
  | type p i k td rest es hN _ hik _ _ _ ih =>
    refine ⟨?_, ih.2⟩
    intro e he
    have := ih.1 e he
    have := hN.le
    omega
  | proc p i k pd rest es hN _ hik _ _ _ ih =>
    constructor
    · intro e he
      rcases List.mem_cons.mp he with rfl | he
      · exact ⟨hN.le, hik⟩
      · have := ih.1 e he
        have := hN.le
        omega
    · rw [List.pairwise_cons]
      refine ⟨?_, ih.2⟩
      intro e he
      have := ih.1 e he
      show k < e.1
      omega

end Spl.ParseConform
